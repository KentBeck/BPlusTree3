import BPT.Rust.Raw
import BPT.Arena.Proofs
/-
  Leaf chains in ANY raw map, apart from any iterator.  `RawChain`: typed leaves stored and linked in a given order.
  `NextWalk`: what the loop along `next` lists; it is deterministic, so it lists no slot twice, and so the fuel and the
  drain bound of the map outlast every stored chain.
-/
namespace BPT.Rust
open BPT Tree RawMap
variable {K V : Type} [Keyed K]

/-- the leaves `L` are stored in `m` and linked in this order; the second index is the id of the first one.
    `cap` only fixes the representation `leafToRaw cap l`; `l.id ≠ nullId` follows from the lookup. -/
inductive RawChain (m : RawMap K V) (cap : Nat) : List (Leaf K V) → Nat → Prop where
  | nil : RawChain m cap [] nullId
  | cons (l : Leaf K V) (rest : List (Leaf K V)) (nxt : Nat) :
      m.getLeaf l.id = some (leafToRaw cap l) → l.keys.length = l.vals.length → l.id ≠ nullId → l.next = nxt →
      RawChain m cap rest nxt → RawChain m cap (l :: rest) l.id

theorem RawChain.inv_cons {m : RawMap K V} {cap : Nat} {l : Leaf K V} {rest : List (Leaf K V)} {x : Nat}
    (h : RawChain m cap (l :: rest) x) :
    x = l.id ∧ m.getLeaf l.id = some (leafToRaw cap l) ∧ l.keys.length = l.vals.length ∧ l.id ≠ nullId ∧ RawChain m cap rest l.next := by
  cases h with
  | cons _ _ nxt h1 h2 h3 h4 h5 => exact ⟨rfl, h1, h2, h3, h4 ▸ h5⟩

theorem RawChain.suffix {m : RawMap K V} {cap : Nat} : ∀ (before : List (Leaf K V)) (l : Leaf K V) (after : List (Leaf K V)) (x : Nat),
    RawChain m cap (before ++ l :: after) x → RawChain m cap (l :: after) l.id := by
  intro before
  induction before with
  | nil => intro l after x h; exact h.inv_cons.1 ▸ h
  | cons b before ih =>
    intro l after x h
    obtain ⟨_, _, _, _, htail⟩ := RawChain.inv_cons (l := b) h
    exact ih l after _ htail

theorem RawChain.stored {m : RawMap K V} {cap : Nat} {L : List (Leaf K V)} {x : Nat} (h : RawChain m cap L x) :
    ∀ l ∈ L, m.getLeaf l.id = some (leafToRaw cap l) := by
  induction h with
  | nil => nofun
  | cons l rest _ h1 _ _ _ _ ih => exact List.forall_mem_cons.2 ⟨h1, ih⟩

theorem RawChain.head_stored {m : RawMap K V} {cap : Nat} {l : Leaf K V} {rest : List (Leaf K V)} {x : Nat}
    (h : RawChain m cap (l :: rest) x) : m.getLeaf l.id = some (leafToRaw cap l) := h.stored l List.mem_cons_self

section

/-- the `while let Some(id)` loop of `check_leaf_linked_list_completeness` from `x` returns, having listed `ids` -/
inductive NextWalk (m : RawMap K V) : Option Nat → List Nat → Prop where
  | done : NextWalk m none []
  | dangling (id : Nat) : m.getLeaf id = none → NextWalk m (some id) [id]
  | step (id : Nat) (lf : RLeaf K V) (rest : List Nat) : m.getLeaf id = some lf →
      NextWalk m (if lf.next ≠ nullId then some lf.next else none) rest → NextWalk m (some id) (id :: rest)

variable {m : RawMap K V} {x : Option Nat} {ids : List Nat}

theorem NextWalk.of_chainIds : ∀ {f : Nat} {x : Option Nat} {ids : List Nat}, m.chainIds f x = .ok ids → NextWalk m x ids := by
  intro f
  induction f with
  | zero => intro _ _ h; cases h
  | succ f ih =>
    intro x ids h
    cases x with
    | none => cases h; exact .done
    | some id =>
      unfold chainIds at h
      cases hg : m.getLeaf id with
      | none => rw [hg] at h; cases h; exact .dangling id hg
      | some lf =>
        rw [hg] at h
        obtain ⟨rest, hrest, rfl⟩ := Res.map_eq_ok h
        exact .step id lf rest hg (ih hrest)

theorem NextWalk.det (h : NextWalk m x ids) : ∀ {ids' : List Nat}, NextWalk m x ids' → ids' = ids := by
  induction h with
  | done => intro _ h'; cases h'; rfl
  | dangling id hg =>
    intro _ h'
    cases h' with
    | dangling => rfl
    | step _ _ _ hg' => rw [hg] at hg'; cases hg'
  | step id lf rest hg _ ih =>
    intro _ h'
    cases h' with
    | dangling _ hg' => rw [hg] at hg'; cases hg'
    | step _ lf' rest' hg' hrest' =>
      cases hg.symm.trans hg'
      rw [ih hrest']

theorem NextWalk.suffix (h : NextWalk m x ids) : ∀ (i : Nat) (hi : i < ids.length), NextWalk m (some ids[i]) (ids.drop i) := by
  induction h with
  | done => intro i hi; cases hi
  | dangling id hg =>
    intro i hi
    cases i with
    | zero => exact .dangling id hg
    | succ i => simp at hi
  | step id lf rest hg hrest ih =>
    intro i hi
    cases i with
    | zero => exact .step id lf rest hg hrest
    | succ i => exact ih i (Nat.lt_of_succ_lt_succ hi)

/-- equal ids at `i < j` would start the suffixes from `i` and from `j` at one id: the walk is deterministic, so they are one
    list, of two lengths -/
theorem NextWalk.nodup (h : NextWalk m x ids) : ids.Nodup := by
  unfold List.Nodup
  rw [List.pairwise_iff_getElem]
  intro i j hi hj hij heq
  have := congrArg List.length ((h.suffix i hi).det (heq ▸ h.suffix j hj))
  simp only [List.length_drop] at this
  exact Nat.ne_of_lt (Nat.sub_lt_sub_left hi hij) this

theorem NextWalk.chainIds (h : NextWalk m x ids) : ∀ {f : Nat}, ids.length < f → m.chainIds f x = .ok ids := by
  induction h with
  | done => intro f hf; cases f with | zero => cases hf | succ f => rfl
  | dangling id hg =>
    intro f hf
    cases f with
    | zero => cases hf
    | succ f => rw [RawMap.chainIds, hg]
  | step id lf rest hg _ ih =>
    intro f hf
    cases f with
    | zero => cases hf
    | succ f => rw [RawMap.chainIds, hg]; simp only [ih (Nat.lt_of_succ_lt_succ hf), Res.map_ok]

theorem RawChain.nextWalk {cap : Nat} {L : List (Leaf K V)} {y : Nat} (h : RawChain m cap L y) :
    NextWalk m (L.head?.map (·.id)) (L.map (·.id)) := by
  induction h with
  | nil => exact .done
  | cons l rest nxt hg _ _ hnx hrest ih =>
    refine .step l.id (leafToRaw cap l) _ hg ?_
    have hnext : (if l.next ≠ nullId then some l.next else none) = rest.head?.map (·.id) := by
      rw [hnx]
      cases rest with
      | nil => cases hrest; rfl
      | cons l' _ => obtain ⟨e, _, _, hne, _⟩ := hrest.inv_cons; rw [e, if_pos hne]; rfl
    exact hnext ▸ ih

end

theorem RawChain.nodup {m : RawMap K V} {cap : Nat} {L : List (Leaf K V)} {x : Nat} (h : RawChain m cap L x) :
    (L.map (·.id)).Nodup :=
  h.nextWalk.nodup

theorem RawChain.length_lt_fuel {m : RawMap K V} {cap : Nat} {L : List (Leaf K V)} {x : Nat} (h : RawChain m cap L x) :
    L.length + 1 ≤ m.fuel := by
  have := h.nodup.length_le_of_subset (l₂ := List.range m.leaves.storage.length) fun a ha => by
    obtain ⟨l, hl, rfl⟩ := List.mem_map.1 ha
    exact List.mem_range.2 (Arena.get_eq_some (h.stored l hl)).2.1
  rw [List.length_map, List.length_range] at this
  unfold RawMap.fuel; omega

theorem RawChain.entries_lt_itemBound {m : RawMap K V} {cap : Nat} {L : List (Leaf K V)} {x : Nat} (h : RawChain m cap L x) :
    (L.flatMap Leaf.entries).length < m.itemBound := by
  -- a leaf holds no more entries than the weight `itemBound` gives its slot, and distinct slots weigh no more than all
  have hw : ∀ l ∈ L, l.entries.length ≤ (m.leaves.storage.map (fun x => x.keys.length + 1))[l.id]?.getD 0 := by
    intro l hl
    rw [List.getElem?_map, (Arena.get_eq_some (h.stored l hl)).2.2.2]
    simp only [Option.map_some, Option.getD_some, leafToRaw, Leaf.entries, List.length_zip]
    exact Nat.le_succ_of_le (Nat.min_le_left _ _)
  have h1 := sum_le_sum_pointwise _ _ L hw
  have h2 := sum_getD_le_sum (L.map (·.id)) (m.leaves.storage.map (fun x => x.keys.length + 1)) h.nodup
  rw [List.map_map] at h2
  rw [List.length_flatMap]
  unfold RawMap.itemBound
  exact Nat.lt_succ_of_le (Nat.le_trans h1 h2)

end BPT.Rust
