import BPT.Props.C01
import BPT.Rust.FastIter
/-
  C02 — Rust iteration yields every entry exactly once in ascending key order.

  Readers are the *raw* ones (they walk the arenas as the code does); `view s` is
  the arena image of a state satisfying the structural invariant `SInv`, which
  every reachable state does (`reachable_sinv`).  `Small s` is the standing
  assumption that arena slots fit `u32` handles.
-/
namespace BPT.Props.C02
open BPT BPT.Rust

variable {K V : Type} [Keyed K]

theorem step_sinv (s : RState K V) (op : C01.Op K V) (hs : SInv s) (s' : RState K V) (o : C01.Out V)
    (he : C01.step s op = some (s', o)) : SInv s' :=
  C01.step_state_cases he (fun k v old h => insert_sinv s k v hs s' old h) (fun k old h => remove_sinv s k hs s' old h)
    (fun k v => getMutWrite_sinv s k v hs) (sinv_fresh s.cap hs.inv.cap4) hs

/-- every state reachable through the map-level API satisfies the full structural invariant -/
theorem reachable_sinv (ops : List (C01.Op K V)) : ∀ (s : RState K V), SInv s →
    ∀ s', (ops.foldl (fun (acc : Option (RState K V)) op => acc.bind fun s => (C01.step s op).map (·.1)) (some s)) = some s' → SInv s' :=
  fun s hs s' => foldl_bind_inv (fun (s : RState K V) (op : C01.Op K V) => (C01.step s op).map (·.1)) SInv
    (fun s _ op hs he => by
      obtain ⟨r, hr, rfl⟩ := Option.map_eq_some_iff.1 he
      exact step_sinv s op hs r.1 r.2 hr) ops s s' hs

theorem new_sinv (cap : Nat) (hcap : 4 ≤ cap) : ∃ s, (new cap : Option (RState K V)) = some s ∧ SInv s :=
  ⟨freshState cap, new_of_le cap hcap, sinv_fresh cap hcap⟩

/-- **items() / slice()**: exactly the current entries, once each, in the order of the abstraction -/
theorem items_eq_abs (s : RState K V) (hs : SInv s) (hsm : Small s) :
    (view s).items Cfg.repaired = .ok (abs s) := view_items _ s hs hsm

/-- … and that order is strictly ascending by key -/
theorem items_strictly_ascending (s : RState K V) (hs : SInv s) : SMap.Sorted (abs s) := C01.abs_sorted s hs.inv

theorem keys_eq (s : RState K V) (hs : SInv s) (hsm : Small s) :
    (view s).keys Cfg.repaired = .ok ((abs s).map (·.1)) := by
  simp [RawMap.keys, items_eq_abs s hs hsm]

theorem values_eq (s : RState K V) (hs : SInv s) (hsm : Small s) :
    (view s).values Cfg.repaired = .ok ((abs s).map (·.2)) := by
  simp [RawMap.values, items_eq_abs s hs hsm]

/-- `last()`: the maximum entry, `None` when empty -/
theorem last_eq (s : RState K V) (hs : SInv s) (hsm : Small s) :
    (view s).last Cfg.repaired = .ok ((abs s).getLast?) := by
  simp [RawMap.last, items_eq_abs s hs hsm]

/-- `first()`: the minimum entry, `None` when empty -/
theorem first_eq (s : RState K V) (hs : SInv s) (hsm : Small s) :
    (view s).first Cfg.repaired = .ok ((abs s).head?) := first_of_items (items_eq_abs s hs hsm)

/-- `first()` / `last()` are the extremes, and answer `None` exactly on the empty map -/
theorem first_last_extremes (s : RState K V) (hs : SInv s) (hsm : Small s) :
    ∃ f l, (view s).first Cfg.repaired = .ok f ∧ (view s).last Cfg.repaired = .ok l ∧
      (f = none ↔ abs s = []) ∧ (l = none ↔ abs s = []) ∧
      (∀ a ∈ f, ∀ p ∈ abs s, ord a.1 ≤ ord p.1) ∧ (∀ z ∈ l, ∀ p ∈ abs s, ord p.1 ≤ ord z.1) := by
  have hso := items_strictly_ascending s hs
  exact ⟨_, _, first_eq s hs hsm, last_eq s hs hsm, by simp, by simp, fun _ ha => hso.head_le ha, fun _ hz => hso.le_getLast hz⟩

/-- `get(k)` answers the pair `items()` lists for `k`, or `None` -/
theorem items_pair_current (s : RState K V) (k : K) (hs : SInv s) (hsm : Small s) :
    (view s).get k = .ok (SMap.lookup (abs s) k) := by
  rw [view_get s k hs hsm, get_spec s k hs.inv]

/-- an exhausted iterator keeps returning `None` -/
theorem exhausted_stays_none (cfg : Cfg) (m : RawMap K V) (st : RawMap.ItState K V) (f : Nat) (hst : st.leaf = none) :
    RawMap.itemNext cfg m (f+1) st = .ok (none, st) := itemNext_none cfg m f st hst

/-- an iterator with nothing left to yield returns `None` and is left exhausted (a `None` that an end bound causes is not
    covered: the statement starts from `Pos … []`) -/
theorem none_means_exhausted (cfg : Cfg) (m : RawMap K V) (cap n : Nat) (st st' : RawMap.ItState K V) (fuel : Nat)
    (hp : Pos m cap st [] n) (hf : n + 1 ≤ fuel) (he : RawMap.itemNext cfg m fuel st = .ok (none, st')) :
    Pos m cap st' [] 0 := by
  obtain ⟨out, st2, he2, _, hres⟩ := itemNext_pos cfg m cap n st [] fuel hp hf
  rw [he] at he2
  simp only [Res.ok.injEq, Prod.mk.injEq] at he2
  rw [he2.2]; exact hres.2

/-- two iterators over the same map advanced along a schedule (`true` advances `a`); a failing call ends the whole run
    with `([], [])`, for both -/
def runSched (cfg : Cfg) (m : RawMap K V) (f : Nat) :
    List Bool → RawMap.ItState K V → RawMap.ItState K V → List (Option (K × V)) × List (Option (K × V))
  | [], _, _ => ([], [])
  | true :: sch, a, b =>
    match RawMap.itemNext cfg m f a with
    | .ok (o, a') => let r := runSched cfg m f sch a' b; (o :: r.1, r.2)
    | _ => ([], [])
  | false :: sch, a, b =>
    match RawMap.itemNext cfg m f b with
    | .ok (o, b') => let r := runSched cfg m f sch a b'; (r.1, o :: r.2)
    | _ => ([], [])

def runAlone (cfg : Cfg) (m : RawMap K V) (f : Nat) : Nat → RawMap.ItState K V → List (Option (K × V))
  | 0, _ => []
  | n+1, a =>
    match RawMap.itemNext cfg m f a with
    | .ok (o, a') => o :: runAlone cfg m f n a'
    | _ => []

/-- two `items()` iterators (no end bound), each positioned on a stored chain, do not influence each other.  That one's
    `next()` leaves the other and the map alone is how the model is built (a shared borrow is a value); the theorem adds
    that no call fails, so `runSched` cuts neither run short. -/
theorem iterators_independent (cfg : Cfg) (m : RawMap K V) (cap : Nat) (f : Nat) :
    ∀ (sch : List Bool) (a b : RawMap.ItState K V) (Ra Rb : List (K × V)) (na nb : Nat),
      Pos m cap a Ra na → Pos m cap b Rb nb → na + 1 ≤ f → nb + 1 ≤ f →
      a.endKey = none → a.endBound = none → b.endKey = none → b.endBound = none →
      (runSched cfg m f sch a b).1 = runAlone cfg m f (sch.count true) a ∧
      (runSched cfg m f sch a b).2 = runAlone cfg m f (sch.count false) b := by
  intro sch
  induction sch with
  | nil => intro a b _ _ _ _ _ _ _ _ _ _ _ _; exact ⟨rfl, rfl⟩
  | cons x sch ih =>
    intro a b Ra Rb na nb hpa hpb hfa hfb ha1 ha2 hb1 hb2
    cases x with
    | true =>
      obtain ⟨a', na', he, hpa', hle, ha1', ha2'⟩ := itemNext_pos_noEnd cfg m cap na a Ra f hpa hfa ha1 ha2
      have := ih a' b Ra.tail Rb na' nb hpa' hpb (by omega) hfb ha1' ha2' hb1 hb2
      -- `true` counts for `a` only: `a` alone is one call further, `b` alone is where it was
      simp only [runSched, he, List.count_cons, beq_self_eq_true, if_true, runAlone,
        show (true == false) = false from rfl, Bool.false_eq_true, if_false, Nat.add_zero]
      exact ⟨by rw [this.1], this.2⟩
    | false =>
      obtain ⟨b', nb', he, hpb', hle, hb1', hb2'⟩ := itemNext_pos_noEnd cfg m cap nb b Rb f hpb hfb hb1 hb2
      have := ih a b' Ra Rb.tail na nb' hpa hpb' hfa (by omega) ha1 ha2 hb1' hb2'
      simp only [runSched, he, List.count_cons, beq_self_eq_true, if_true, runAlone,
        show (false == true) = false from rfl, Bool.false_eq_true, if_false, Nat.add_zero]
      exact ⟨this.1, by rw [this.2]⟩

/-- `items_fast()` yields the same sequence as `items()` -/
theorem items_fast_eq_abs (s : RState K V) (hs : SInv s) (hsm : Small s) :
    (view s).itemsFast Cfg.repaired = .ok (abs s) := view_itemsFast s hs hsm

/-- splits at every level, then borrows and merges on the left edge -/
def demoOps : List (C01.Op Int Nat) :=
  (List.range 40).map (fun i => C01.Op.insert (Int.ofNat i) i) ++ (List.range 10).map (fun i => C01.Op.remove (Int.ofNat i))

/-- **non-vacuity**: a three-level state with five freed leaf slots meets `SInv`, `Small`, the hypotheses of the
    theorems of C02–C06, C10, C11 -/
theorem demo_state : ∃ s : RState Int Nat, SInv s ∧ Small s ∧ s.height = 2 ∧ (abs s).length = 30 ∧ s.al.leaf.free.length = 5 := by
  have h : (demoOps.foldl (fun (acc : Option (RState Int Nat)) op => acc.bind fun s => (C01.step s op).map (·.1)) (some (freshState 4))).map
      (fun s => (s.height, (abs s).length, s.al.leaf.free.length, decide (s.al.leaf.len ≤ nullId ∧ s.al.branch.len ≤ nullId))) = some (2, 30, 5, true) := by decide +kernel
  cases hr : demoOps.foldl (fun (acc : Option (RState Int Nat)) op => acc.bind fun s => (C01.step s op).map (·.1)) (some (freshState 4)) with
  | none => rw [hr] at h; cases h
  | some s =>
    rw [hr] at h
    simp only [Option.map_some, Option.some.injEq, Prod.mk.injEq, decide_eq_true_eq] at h
    obtain ⟨hheight, hlen, hfree, hsmall⟩ := h
    exact ⟨s, reachable_sinv demoOps (freshState 4) (sinv_fresh 4 (by decide)) s hr, hsmall, hheight, hlen, hfree⟩

example : ∃ s : RState Int Nat, s.height = 2 ∧ (view s).items Cfg.repaired = .ok (abs s) ∧ (abs s).length = 30 := by
  obtain ⟨s, hs, hsm, hh, hl, _⟩ := demo_state
  exact ⟨s, hh, items_eq_abs s hs hsm, hl⟩
end BPT.Props.C02
