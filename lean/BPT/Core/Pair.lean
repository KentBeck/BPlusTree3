import BPT.Core.Glue
/-
  Two adjacent children `j, j+1` of a branch, for all implementations: the `Cut` they form around the separator between
  them (`pair_children`), and what the children are, under any per-child listing `g`, after the two are replaced by two
  (`replace2`: every borrow) or by one (`merge2`: every merge).
-/
namespace BPT
variable {K V : Type}
open Tree

theorem Branch.children_replace2 {α : Type} (b : Branch K α) (j : Nat) (x' y' : α) (sep : K) (hj : j + 1 < b.children.length) :
    (b.replace2 j x' y' sep).children = b.children.take j ++ x' :: y' :: b.children.drop (j+2) :=
  setAt_setAt_succ hj

theorem Branch.children_merge2 {α : Type} (b : Branch K α) (j : Nat) (m : α) (hj : j + 1 < b.children.length) :
    (b.merge2 j m).children = b.children.take j ++ m :: b.children.drop (j+2) :=
  removeAt_setAt_succ hj

theorem Branch.flatMap_pair {α β : Type} (g : α → List β) (b : Branch K α) (j : Nat) (x y : α)
    (hx : b.children[j]? = some x) (hy : b.children[j+1]? = some y) :
    b.children.flatMap g = (b.children.take j).flatMap g ++ (g x ++ g y) ++ (b.children.drop (j+2)).flatMap g := by
  conv => lhs; rw [eq_take_cons_cons_drop b.children j x y hx hy]
  simp [List.flatMap_append]

theorem Branch.flatMap_replace2 {α β : Type} (g : α → List β) (b : Branch K α) (j : Nat) (x' y' : α) (sep : K)
    (hj : j + 1 < b.children.length) :
    (b.replace2 j x' y' sep).children.flatMap g =
      (b.children.take j).flatMap g ++ (g x' ++ g y') ++ (b.children.drop (j+2)).flatMap g := by
  rw [Branch.children_replace2 b j x' y' sep hj]
  simp [List.flatMap_append]

theorem Branch.flatMap_replace2_eq {α β : Type} (g : α → List β) {b : Branch K α} {j : Nat} {x y x' y' : α} {sep : K}
    (hx : b.children[j]? = some x) (hy : b.children[j+1]? = some y) (e : g x' ++ g y' = g x ++ g y) :
    (b.replace2 j x' y' sep).children.flatMap g = b.children.flatMap g := by
  rw [Branch.flatMap_replace2 g b j x' y' sep (lt_of_getElem?_eq_some hy), Branch.flatMap_pair g b j x y hx hy, e]

theorem Branch.flatMap_merge2 {α β : Type} (g : α → List β) (b : Branch K α) (j : Nat) (m : α) (hj : j + 1 < b.children.length) :
    (b.merge2 j m).children.flatMap g = (b.children.take j).flatMap g ++ g m ++ (b.children.drop (j+2)).flatMap g := by
  rw [Branch.children_merge2 b j m hj]
  simp [List.flatMap_append]

theorem forall_mem_pair {α : Type} (P : α → Prop) (l new : List α) (j : Nat)
    (hnew : ∀ c ∈ new, P c) (hrest : ∀ n c, l[n]? = some c → n ≠ j → n ≠ j + 1 → P c) :
    ∀ c ∈ l.take j ++ (new ++ l.drop (j+2)), P c := by
  intro c hc
  rcases List.mem_append.1 hc with hc | hc
  · obtain ⟨n, hn, hcn⟩ := mem_take_iff_getElem?.1 hc
    exact hrest n c hcn (Nat.ne_of_lt hn) (Nat.ne_of_lt (Nat.lt_succ_of_lt hn))
  · rcases List.mem_append.1 hc with hc | hc
    · exact hnew c hc
    · obtain ⟨n, hcn⟩ := mem_drop_iff_getElem?.1 hc
      exact hrest (j + 2 + n) c hcn (by omega) (by omega)

variable [Keyed K]

theorem pair_children (h : Nat) (b : Branch K (Tree K V h)) (lo hi : Option Int) (j : Nat) (x y : Tree K V h)
    (hb : Ordered (h+1) b lo hi) (hx : b.children[j]? = some x) (hy : b.children[j+1]? = some y) :
    ∃ sep, b.keys[j]? = some sep ∧ Cut h (loAt b.keys lo j) (hiAt b.keys hi (j+1)) x sep y := by
  have hs := hb.sorted
  have hjk : j < b.keys.length := by have := hb.arity; have := lt_of_getElem?_eq_some hy; omega
  obtain ⟨sep, hsep⟩ := exists_getElem? hjk
  refine ⟨sep, hsep, hiAt_eq_some b.keys hi j _ hsep ▸ hb.child hx, loAt_succ_eq_some b.keys lo j _ hsep ▸ hb.child hy, ?_⟩
  -- the separator lies above the keys before it and below those after it
  refine (hb.keys_inB _ (List.mem_of_getElem? hsep)).to_child (Nat.le_of_lt hjk) hjk ?_ ?_
  · intro k hk
    obtain ⟨n, hn, hkn⟩ := mem_take_iff_getElem?.1 hk
    exact Int.le_of_lt (hs.getElem?_lt hkn hsep hn)
  · intro k hk
    obtain ⟨n, hkn⟩ := mem_drop_iff_getElem?.1 hk
    exact hs.getElem?_lt hsep hkn (Nat.lt_add_right n (Nat.lt_succ_self j))

end BPT
