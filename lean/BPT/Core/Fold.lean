/-
  Histories as left folds of a partial step (`acc.bind fun s => f s i`): once a step fails the fold stays `none`,
  so a fold that came out `some` ran every step.  Import-free.
-/
namespace BPT

variable {σ ι : Type}

theorem foldl_bind_none (f : σ → ι → Option σ) (l : List ι) :
    l.foldl (fun acc i => acc.bind fun s => f s i) none = none := by
  induction l with
  | nil => rfl
  | cons i l ih => exact ih

theorem foldl_bind_inv (f : σ → ι → Option σ) (P : σ → Prop) (hstep : ∀ s s' i, P s → f s i = some s' → P s') :
    ∀ (l : List ι) (s s' : σ), P s → l.foldl (fun acc i => acc.bind fun s => f s i) (some s) = some s' → P s' := by
  intro l
  induction l with
  | nil => intro s s' hs h; cases h; exact hs
  | cons i l ih =>
    intro s s' hs h
    rw [List.foldl_cons, Option.bind_some] at h
    cases hf : f s i with
    | none => rw [hf, foldl_bind_none] at h; cases h
    | some s1 => rw [hf] at h; exact ih s1 s' (hstep s s1 i hs hf) h

theorem foldl_bind_refines {μ : Type} (f : σ → ι → Option σ) (g : μ → ι → μ) (abs : σ → μ) (P : σ → Prop)
    (hstep : ∀ s i, P s → ∃ s', f s i = some s' ∧ P s' ∧ abs s' = g (abs s) i) :
    ∀ (l : List ι) (s : σ), P s →
      ∃ s', l.foldl (fun acc i => acc.bind fun s => f s i) (some s) = some s' ∧ P s' ∧ abs s' = l.foldl g (abs s) := by
  intro l
  induction l with
  | nil => intro s hs; exact ⟨s, rfl, hs, rfl⟩
  | cons i l ih =>
    intro s hs
    obtain ⟨s1, he, h1, ha⟩ := hstep s i hs
    rw [List.foldl_cons, List.foldl_cons, Option.bind_some, he, ← ha]
    exact ih s1 h1

end BPT
