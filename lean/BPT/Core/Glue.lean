import BPT.Core.Surgery
/- Glue / cut in append form: two adjacent ordered nodes and the separator between them form one ordered node, and
   conversely.  Every split is a cut; every borrow and merge is "glue, then cut somewhere else" (merge: glue only).
   `leaf_cut_spec` carries the prefix `Rust.`; it serves all three implementations like the rest of the file. -/
namespace BPT.Rust
open BPT Tree
variable {K V : Type} [Keyed K]

/-- the shape every leaf split has: the would-be contents `E/Ev` cut at `m` -/
theorem leaf_cut_spec (E : List K) (Ev : List V) (m : Nat) (lo hi : Option Int) (sep : K)
    (hs : KSorted E) (hl : E.length = Ev.length) (hb : ∀ x ∈ E, InB lo hi (ord x))
    (hsep : (E.drop m).head? = some sep) (id₁ id₂ n₁ n₂ : Nat) :
    Ordered 0 ({ id := id₁, keys := E.take m, vals := Ev.take m, next := n₁ } : Leaf K V) lo (some (ord sep)) ∧
    Ordered 0 ({ id := id₂, keys := E.drop m, vals := Ev.drop m, next := n₂ } : Leaf K V) (some (ord sep)) hi ∧
    InB lo hi (ord sep) := by
  obtain ⟨h1, h2, h3⟩ : KSorted (E.take m) ∧ KSorted (E.drop m) ∧ ∀ x ∈ E.take m, ∀ y ∈ E.drop m, ord x < ord y :=
    List.pairwise_append.1 (by rw [List.take_append_drop]; exact hs)
  have hsepmem : sep ∈ E.drop m := List.mem_of_mem_head? hsep
  rw [List.head?_drop] at hsep
  refine ⟨⟨h1, by simp only [List.length_take, hl], fun x hx => (hb x (List.mem_of_mem_take hx)).cut_hi (h3 x hx sep hsepmem)⟩,
    ⟨h2, by simp only [List.length_drop, hl], fun x hx => (hb x (List.mem_of_mem_drop hx)).cut_lo ?_⟩, hb sep (List.mem_of_mem_drop hsepmem)⟩
  -- `sep` is the first key of the sorted right half
  obtain ⟨j, hj⟩ := mem_drop_iff_getElem?.1 hx
  exact hs.getElem?_le hsep hj (Nat.le_add_right m j)

end BPT.Rust

namespace BPT
variable {K V : Type} [Keyed K]
open Tree

theorem leaf_glue (K1 K2 : List K) (V1 V2 : List V) (lo hi : Option Int) (s : Int) (id₁ id₂ id n₁ n₂ n : Nat)
    (h1 : Ordered 0 ({ id := id₁, keys := K1, vals := V1, next := n₁ } : Leaf K V) lo (some s))
    (h2 : Ordered 0 ({ id := id₂, keys := K2, vals := V2, next := n₂ } : Leaf K V) (some s) hi)
    (hlo : ∀ l, lo = some l → l ≤ s) (hhi : ∀ u, hi = some u → s ≤ u) :
    Ordered 0 ({ id := id, keys := K1 ++ K2, vals := V1 ++ V2, next := n } : Leaf K V) lo hi := by
  obtain ⟨s1, l1, b1⟩ := h1
  obtain ⟨s2, l2, b2⟩ := h2
  refine ⟨List.pairwise_append.2 ⟨s1, s2, ?_⟩, ?_, ?_⟩
  · intro x hx y hy
    exact Int.lt_of_lt_of_le ((b1 x hx).lt_hi rfl) ((b2 y hy).lo_le rfl)
  · show (K1 ++ K2).length = (V1 ++ V2).length
    rw [List.length_append, List.length_append, show K1.length = V1.length from l1, show K2.length = V2.length from l2]
  · intro x hx
    rcases List.mem_append.1 (show x ∈ K1 ++ K2 from hx) with hx | hx
    · exact (b1 x hx).glue_hi hhi
    · exact (b2 x hx).glue_lo hlo

/-- two adjacent ordered branches and the separator between them, glued -/
theorem branch_glue (h : Nat) (K1 K2 : List K) (C1 C2 : List (Tree K V h)) (lo hi : Option Int) (pk : K) (id₁ id₂ id : Nat)
    (h1 : Ordered (h+1) ({ id := id₁, keys := K1, children := C1 } : Branch K (Tree K V h)) lo (some (ord pk)))
    (h2 : Ordered (h+1) ({ id := id₂, keys := K2, children := C2 } : Branch K (Tree K V h)) (some (ord pk)) hi)
    (hpk : InB lo hi (ord pk)) (hstrict : ∀ x ∈ K2, ord pk < ord x) :
    Ordered (h+1) ({ id := id, keys := K1 ++ pk :: K2, children := C1 ++ C2 } : Branch K (Tree K V h)) lo hi :=
  (ordered_glue_iff h K1 K2 C1 C2 lo hi pk id₁ id₂ id h1.arity).2 ⟨h1, h2, hpk, hstrict⟩

/-- the shape every branch split has: cut an (over-full) ordered branch around key `m` -/
theorem branch_cut_spec (h : Nat) (b : Branch K (Tree K V h)) (lo hi : Option Int) (m : Nat) (pk : K) (id₁ id₂ : Nat)
    (hb : Ordered (h+1) b lo hi) (hm : b.keys[m]? = some pk) :
    Ordered (h+1) ({ id := id₁, keys := b.keys.take m, children := b.children.take (m+1) } : Branch K (Tree K V h)) lo (some (ord pk)) ∧
    Ordered (h+1) ({ id := id₂, keys := b.keys.drop (m+1), children := b.children.drop (m+1) } : Branch K (Tree K V h)) (some (ord pk)) hi ∧
    InB lo hi (ord pk) := by
  have hml := lt_of_getElem?_eq_some hm
  have hlen := hb.arity
  have eb : b = { id := b.id, keys := b.keys.take m ++ pk :: b.keys.drop (m+1),
                  children := b.children.take (m+1) ++ b.children.drop (m+1) } := by
    rw [← eq_take_cons_drop _ _ _ hm, List.take_append_drop]
  rw [eb] at hb
  obtain ⟨h1, h2, h3, _⟩ := (ordered_glue_iff h _ _ _ _ lo hi pk id₁ id₂ b.id
    (by rw [List.length_take_of_le (by omega), List.length_take_of_le (Nat.le_of_lt hml)])).1 hb
  exact ⟨h1, h2, h3⟩

end BPT
