import BPT.Rust.InsertLinks
import BPT.Rust.RemoveLinks
/-
  Node-id bookkeeping of both arenas: the ids in use and the free list partition the slots (`IdsOK`), and every
  mutator moves ids in use and allocator together (`Bal`).  Leaf ids are the first components of the links, branch
  ids are listed by `bids`.
-/
namespace BPT.Rust
open BPT Tree
variable {K V : Type}

def IdsOK (ids : List Nat) (a : Alloc) : Prop := ∀ i, ids.count i + a.free.count i = if i < a.len then 1 else 0

/-- `IdsOK`'s equation for `(ids', a')` less the one for `(ids, a)`, written crosswise (`a.len` on the side of `ids'`) so
    that no subtraction occurs -/
def Bal (ids ids' : List Nat) (a a' : Alloc) : Prop :=
  ∀ i, ids'.count i + a'.free.count i + (if i < a.len then 1 else 0) = ids.count i + a.free.count i + (if i < a'.len then 1 else 0)

theorem Bal.refl {ids : List Nat} {a : Alloc} : Bal ids ids a a := fun _ => rfl

theorem Bal.trans {i1 i2 i3 : List Nat} {a1 a2 a3 : Alloc} (h1 : Bal i1 i2 a1 a2) (h2 : Bal i2 i3 a2 a3) : Bal i1 i3 a1 a3 := by
  intro i; have := h1 i; have := h2 i; omega

theorem Bal.ctx {ids ids' : List Nat} {a a' : Alloc} (P Q : List Nat) (h : Bal ids ids' a a') :
    Bal (P ++ ids ++ Q) (P ++ ids' ++ Q) a a' := by
  intro i; have := h i; simp only [List.count_append]; omega

theorem Bal.congr_right {ids ids1 ids2 : List Nat} {a a' : Alloc} (h : Bal ids ids1 a a') (he : ∀ i, ids2.count i = ids1.count i) :
    Bal ids ids2 a a' := by
  intro i; have := h i; rw [he i]; exact this

theorem IdsOK.step {ids ids' : List Nat} {a a' : Alloc} (h : IdsOK ids a) (hb : Bal ids ids' a a') : IdsOK ids' a' := by
  intro i; have := h i; have := hb i; omega

theorem IdsOK.perm {ids : List Nat} {a : Alloc} (h : IdsOK ids a) : (ids ++ a.free).Perm (List.range a.len) :=
  List.perm_iff_count.2 fun i => by rw [List.count_append, h i, List.count_range]

theorem IdsOK.length {ids : List Nat} {a : Alloc} (h : IdsOK ids a) : ids.length + a.free.length = a.len := by
  simpa using h.perm.length_eq

theorem IdsOK.nodup {ids : List Nat} {a : Alloc} (h : IdsOK ids a) : (ids ++ a.free).Nodup :=
  h.perm.nodup_iff.2 List.nodup_range

theorem IdsOK.lt {ids : List Nat} {a : Alloc} (h : IdsOK ids a) {x : Nat} (hx : x ∈ ids ++ a.free) : x < a.len :=
  List.mem_range.1 (h.perm.mem_iff.1 hx)

theorem IdsOK.mem_of_lt {ids : List Nat} {a : Alloc} (h : IdsOK ids a) {x : Nat} (hx : x < a.len) : x ∈ ids ++ a.free :=
  h.perm.mem_iff.2 (List.mem_range.2 hx)

theorem IdsOK.nodup_ids {ids : List Nat} {a : Alloc} (h : IdsOK ids a) : ids.Nodup := (List.nodup_append.1 h.nodup).1

theorem IdsOK.nodup_free {ids : List Nat} {a : Alloc} (h : IdsOK ids a) : a.free.Nodup := (List.nodup_append.1 h.nodup).2.1

theorem IdsOK.not_free {ids : List Nat} {a : Alloc} (h : IdsOK ids a) {x : Nat} (hx : x ∈ ids) : x ∉ a.free :=
  fun hf => (List.nodup_append.1 h.nodup).2.2 x hx x hf rfl

/-- counts are kept in the form `if x = i then 1 else 0` (id on the left, by `List.count_cons`, `beq_iff_eq`) so that
    `omega` adds them up; this splits off the slot an arena grows by -/
theorem ite_lt_succ (i n : Nat) : (if i < n + 1 then 1 else 0) = (if i < n then 1 else 0) + (if n = i then 1 else 0) := by
  rcases Nat.lt_trichotomy i n with h | h | h
  · rw [if_pos (Nat.lt_succ_of_lt h), if_pos h, if_neg (Nat.ne_of_gt h)]
  · rw [if_pos (h ▸ Nat.lt_succ_self i), if_neg (h ▸ Nat.lt_irrefl i), if_pos h.symm]
  · rw [if_neg (Nat.not_lt.2 h), if_neg (Nat.lt_asymm h), if_neg (Nat.ne_of_lt h)]

theorem Bal.alloc (ids : List Nat) (a : Alloc) : Bal ids (a.alloc.1 :: ids) a a.alloc.2 := by
  intro i
  unfold Alloc.alloc
  cases hf : a.free with
  | nil =>
    simp only [List.count_cons, List.count_nil, beq_iff_eq, ite_lt_succ]
    omega
  | cons x rest =>
    simp only [List.count_cons]
    omega

theorem Bal.dealloc {ids ids' : List Nat} {a : Alloc} {x : Nat}
    (h : ∀ i, ids.count i = ids'.count i + (if x = i then 1 else 0)) : Bal ids ids' a (a.dealloc x) := by
  intro i
  have := h i
  show ids'.count i + (x :: a.free).count i + (if i < a.len then 1 else 0) =
    ids.count i + a.free.count i + (if i < a.len then 1 else 0)
  simp only [List.count_cons, beq_iff_eq]
  omega

theorem IdsOK.fresh_leaf : IdsOK [0] { len := 1, free := [] } := by
  intro i
  show [0].count i + ([] : List Nat).count i = if i < 0 + 1 then 1 else 0
  simp only [List.count_cons, List.count_nil, beq_iff_eq, ite_lt_succ, Nat.not_lt_zero, if_false]
  omega

theorem IdsOK.fresh_branch : IdsOK [] { len := 0, free := [] } := by
  intro i; simp


def leafIdsOf (L : List (Nat × Nat)) : List Nat := L.map (·.1)

theorem leafIdsOf_links (h : Nat) (t : Tree K V h) : leafIdsOf (links h t) = (leaves h t).map (·.id) := by
  simp [leafIdsOf, links, link, List.map_map, Function.comp_def]

def bids : (h : Nat) → Tree K V h → List Nat
  | 0, _ => []
  | h+1, (b : Branch K (Tree K V h)) => b.id :: b.children.flatMap (bids h)

theorem bids_succ (h : Nat) (b : Branch K (Tree K V h)) : bids (h+1) (b : Tree K V (h+1)) = b.id :: b.children.flatMap (bids h) := rfl

theorem count_bids_pair (h : Nat) (x y : Branch K (Tree K V h)) (n : Nat) :
    (bids (h+1) (x : Tree K V (h+1)) ++ bids (h+1) (y : Tree K V (h+1))).count n =
      ([x.id, y.id] ++ (x.children ++ y.children).flatMap (bids h)).count n := by
  simp only [bids_succ, List.flatMap_append, List.count_append, List.count_cons, List.count_nil]
  omega

theorem LinkIns.bal {L L' : List (Nat × Nat)} {a a' : Alloc} (h : LinkIns L L' a a') : Bal (leafIdsOf L) (leafIdsOf L') a a' := by
  cases h with
  | same h1 h2 => rw [h1, h2]; exact Bal.refl
  | split A B i n h1 h2 h3 =>
    rw [h1, h2, h3]
    have := Bal.alloc (leafIdsOf (A ++ [(i, n)] ++ B)) a
    intro j
    have := this j
    simp only [leafIdsOf, List.map_append, List.map_cons, List.map_nil, List.count_append, List.count_cons, List.count_nil] at this ⊢
    omega

theorem LinkRem.bal {L L' : List (Nat × Nat)} {a a' : Alloc} (h : LinkRem L L' a a') : Bal (leafIdsOf L) (leafIdsOf L') a a' := by
  cases h with
  | same h1 h2 => rw [h1, h2]; exact Bal.refl
  | merge A B ia na ib nb h1 h2 h3 =>
    rw [h1, h2, h3]
    apply Bal.dealloc
    intro j
    simp only [leafIdsOf, List.map_append, List.map_cons, List.map_nil, List.count_append, List.count_cons, List.count_nil,
      beq_iff_eq]
    omega

theorem Bal.under {h : Nat} {b : Branch K (Tree K V h)} {P M Q ids' : List Nat} {a a' : Alloc}
    (e : b.children.flatMap (bids h) = P ++ M ++ Q) (hl : Bal M ids' a a') :
    Bal (bids (h+1) (b : Tree K V (h+1))) (b.id :: (P ++ ids' ++ Q)) a a' := by
  rw [bids_succ, e]
  exact hl.ctx (b.id :: _) _

theorem Bal.replace1 {h : Nat} {b : Branch K (Tree K V h)} {i : Nat} {c c' : Tree K V h} {a a' : Alloc}
    (hc : b.children[i]? = some c) (hl : Bal (bids h c) (bids h c') a a') :
    Bal (bids (h+1) (b : Tree K V (h+1))) (bids (h+1) (b.replace1 i c' : Tree K V (h+1))) a a' := by
  rw [bids_succ (b := b.replace1 i c'), Branch.replace1_children, flatMap_setAt]
  exact Bal.under (flatMap_split (bids h) hc) hl

def InsRes.bids {h : Nat} : InsRes K V h → List Nat
  | .updated t _ => Rust.bids h t
  | .split a b _ _ => Rust.bids h a ++ Rust.bids h b

theorem bids_one (b : Branch K (Leaf K V)) : bids 1 (b : Tree K V 1) = [b.id] := by
  rw [bids_succ]
  have : b.children.flatMap (bids 0) = [] := by
    rw [List.flatMap_eq_nil_iff]; intro _ _; rfl
  rw [this]

theorem rebalance_bids {cap h : Nat} {b : Branch K (Tree K V h)} {i : Nat} {al : Allocs} {b2 : Branch K (Tree K V h)} {al2 : Allocs}
    (he : rebalance cap h b i al = some (b2, al2)) :
    Bal (bids (h+1) (b : Tree K V (h+1))) (bids (h+1) (b2 : Tree K V (h+1))) al.branch al2.branch := by
  cases h with
  | zero =>
    -- the parent keeps its id and a leaf `merge` leaves the branch allocator alone: by `rfl`
    rw [bids_one, bids_one]
    cases rebalanceLeaf_shape he <;> exact Bal.refl
  | succ h =>
    -- for the ids of two adjacent branches only their own ids and the concatenation of their children matter
    cases rebalanceBranch_shape he with
    | alone => exact Bal.refl
    | borrow j x y x' y' sep hx hy hx' hy' hc =>
      rw [branchReplace2_eq, bids_succ (b := b.replace2 j x' y' sep),
        Branch.flatMap_replace2 _ b j x' y' sep (lt_of_getElem?_eq_some hy)]
      refine Bal.under (Branch.flatMap_pair _ b j x y hx hy) (Bal.refl.congr_right fun n => ?_)
      rw [count_bids_pair, count_bids_pair, hx', hy', hc]
    | merge j x y m hx hy hm hc =>
      rw [branchMerge2_eq, bids_succ (b := b.merge2 j m), Branch.flatMap_merge2 _ b j m (lt_of_getElem?_eq_some hy)]
      refine Bal.under (Branch.flatMap_pair _ b j x y hx hy) (Bal.dealloc fun n => ?_)
      rw [count_bids_pair, bids_succ, hm, hc]
      simp only [List.count_cons, List.count_append, List.count_nil, beq_iff_eq]
      omega

variable [Keyed K]

theorem insertRec_bids (cap : Nat) :
    ∀ (h : Nat) (t : Tree K V h) (k : K) (v : V) (al : Allocs) (res : InsRes K V h) (al' : Allocs),
      insertRec cap h t k v al = some (res, al') → Bal (bids h t) res.bids al.branch al'.branch := by
  intro h t k v
  refine insertRec_induction cap k v (fun h t al res al' => Bal (bids h t) res.bids al.branch al'.branch) ?_ ?_ ?_ h t
  · intro l al res al' he
    rw [(insertLeaf_links_branchAlloc cap l k v al res al' he).2]
    cases res <;> exact Bal.refl
  · intro h b al _; exact Bal.refl
  · intro h b c al cres al1 res al' hci ih hu
    -- the result's ids: those of `b` with the child's part replaced, plus the new node's id when `b` itself splits
    have hic := lt_of_getElem?_eq_some hci
    have hctx := Bal.under (flatMap_split (bids h) hci) ih
    have hf := insertUp_flat cap (bids h) b hic res al' hu
    have ef : cres.bids = cres.flat (bids h) := by cases cres <;> rfl
    rw [ef] at hctx
    cases (insertUp_eq_some cap b _ _).1 hu with
    | updated c' old _ =>
      show Bal _ (b.id :: (b.replace1 _ c').children.flatMap (bids h)) _ _
      rw [show (b.replace1 _ c').children.flatMap (bids h) = _ from hf]
      exact hctx
    | fits l rt sep old _ _ =>
      show Bal _ (b.id :: (b.split1 _ l rt sep).children.flatMap (bids h)) _ _
      rw [show (b.split1 _ l rt sep).children.flatMap (bids h) = _ from hf]
      exact hctx
    | cut l rt sep old _ pk _ _ =>
      -- the new right half's id stands in the middle of the listing
      refine (hctx.trans (Bal.alloc _ al1.branch)).congr_right fun i => ?_
      show ((b.id :: ((b.split1 _ l rt sep).children.take _).flatMap (bids h)) ++
        (al1.branch.alloc.1 :: ((b.split1 _ l rt sep).children.drop _).flatMap (bids h))).count i = _
      rw [List.perm_middle.count_eq, List.cons_append]
      exact congrArg (fun L => (al1.branch.alloc.1 :: b.id :: L).count i) hf

theorem removeRec_bids (cap : Nat) :
    ∀ (h : Nat) (t : Tree K V h) (k : K) (al : Allocs) (r : RemOut K V h) (al' : Allocs),
      removeRec cap h t k al = some (r, al') → Bal (bids h t) (bids h r.t) al.branch al'.branch := by
  intro h t k
  refine removeRec_induction cap k (fun h t al t' al' => Bal (bids h t) (bids h t') al.branch al'.branch) ?_ ?_ ?_ ?_ h t
  · intro _ _ _ _; exact Bal.refl
  · intro _ _ _ _; exact Bal.refl
  · intro _ _ _ _ _ _ hc _ ih; exact ih.replace1 hc
  · intro _ _ _ _ _ _ _ _ hc _ ih hreb; exact (ih.replace1 hc).trans (rebalance_bids hreb)

end BPT.Rust
