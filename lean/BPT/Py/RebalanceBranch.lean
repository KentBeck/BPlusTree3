import BPT.Py.Rebalance
/-
  `_handle_underflow` for a branch child.  With D8 repaired an empty branch borrows
  before it merges; the code as found sent it straight to the merge, which is wrong only when "one key
  short" means "empty", that is at capacity 4 (`handleBranch_short`).
-/
namespace BPT.Py
open BPT Tree
variable {K V : Type} [Keyed K]

theorem mergeBranchSibling_short (cap h : Nat) (b : Branch K (Branch K (Tree K V h))) (i : Nat)
    (lo hi : Option Int) (c : Branch K (Tree K V h))
    (hp : Short cap (minKeys cap) 1 (h+1) (b : Branch K (Tree K V (h+1))) i lo hi) (hc : b.children[i]? = some c)
    (hnd : ∀ s, b.children[mergePartner i]? = some s → ¬ minKeys cap < s.keys.length) :
    ∃ b2, mergeBranchSibling cap b i = some b2 ∧ Mended cap (minKeys cap) 1 (h+1) (b : Branch K (Tree K V (h+1))) b2 lo hi := by
  have hlen : b.children.length = b.keys.length + 1 := hp.ord.arity
  unfold mergeBranchSibling
  simp only [show ¬ (b.keys.length + 1 ≠ b.children.length) from fun h => h hlen.symm, if_false, hc]
  cases i with
  | succ j =>
    obtain ⟨a, haj⟩ := exists_getElem? (Nat.lt_of_succ_lt hp.idx)
    obtain ⟨sep, hsep, hf, hm⟩ := hp.branchMerge haj hc (Or.inl ⟨rfl, hnd a haj⟩)
    simp only [Nat.succ_pos, if_true, Nat.add_sub_cancel, haj, hsep, hf, and_self]
    exact ⟨_, rfl, hm⟩
  | zero =>
    have hr : 0 + 1 < b.children.length := hlen ▸ Nat.succ_lt_succ hp.nk
    obtain ⟨r, hrj⟩ := exists_getElem? hr
    obtain ⟨sep, hsep, hf, hm⟩ := hp.branchMerge hc hrj (Or.inr ⟨rfl, hnd r hrj⟩)
    simp only [Nat.lt_irrefl, if_false, hr, if_true, hrj, hsep, hf, and_self]
    exact ⟨_, rfl, hm⟩

theorem handleBranchLeft_short (cap h : Nat) (b : Branch K (Branch K (Tree K V h))) (i : Nat)
    (lo hi : Option Int) (c : Branch K (Tree K V h))
    (hp : Short cap (minKeys cap) 1 (h+1) (b : Branch K (Tree K V (h+1))) i lo hi) (hc : b.children[i]? = some c)
    (hrnd : ∀ r, b.children[i+1]? = some r → ¬ minKeys cap < r.keys.length) :
    ∃ b2, handleBranchLeft cap b i c = some b2 ∧ Mended cap (minKeys cap) 1 (h+1) (b : Branch K (Tree K V (h+1))) b2 lo hi := by
  unfold handleBranchLeft
  cases i with
  | zero =>
    rw [sibLeft_zero]
    exact mergeBranchSibling_short cap h b 0 lo hi c hp hc hrnd
  | succ j =>
    obtain ⟨a, haj⟩ := exists_getElem? (show j < b.children.length from Nat.lt_of_succ_lt hp.idx)
    simp only [sibLeft_succ, haj, canDonate_iff]
    by_cases hdon : minKeys cap < a.keys.length
    · rw [if_pos hdon]
      obtain ⟨sep, a', c', mk, hsep, he, hm⟩ := hp.branchBorrowLeft haj hc hdon
      exact ⟨_, by simp [branchBorrowLeftAt, hsep, branchBorrowLeft_eq, he, replace2_eq], hm⟩
    · rw [if_neg hdon]
      refine mergeBranchSibling_short cap h b (j+1) lo hi c hp hc (fun s hs => ?_)
      rw [mergePartner_succ, haj] at hs
      cases hs; exact hdon

theorem handleBranch_short (cfg : Cfg) (cap h : Nat) (b : Branch K (Branch K (Tree K V h))) (i : Nat)
    (lo hi : Option Int) (hp : Short cap (minKeys cap) 1 (h+1) (b : Branch K (Tree K V (h+1))) i lo hi)
    (hcfg : cfg.emptyShortcutLeafOnly = true ∨ 5 ≤ cap) :
    ∃ b2, handleBranch cfg cap b i = some b2 ∧ Mended cap (minKeys cap) 1 (h+1) (b : Branch K (Tree K V (h+1))) b2 lo hi := by
  obtain ⟨c, hci⟩ := exists_getElem? hp.idx
  have hclen : c.keys.length = minKeys cap - 1 := hp.under c hci
  have hmk := hp.one_le
  unfold handleBranch
  have hund : isUnderfull cap c.keys.length = true := decide_eq_true (by omega)
  have hcfg' : ¬ (c.keys.length = 0 ∧ ¬ cfg.emptyShortcutLeafOnly = true) := by
    rintro ⟨h0, hn⟩
    rcases hcfg with hc | hc
    · exact hn hc
    · have := two_le_minKeys cap hc
      omega
  simp only [hci, hund, not_true_eq_false, if_false, hcfg']
  rw [sibRight_eq]
  cases hrj : b.children[i+1]? with
  | none => exact handleBranchLeft_short cap h b i lo hi c hp hci (fun r' hr' => by rw [hrj] at hr'; cases hr')
  | some r =>
    simp only [canDonate_iff]
    by_cases hdr : minKeys cap < r.keys.length
    · rw [if_pos hdr]
      obtain ⟨sep, c', r', mk, hsep, he, hm⟩ := hp.branchBorrowRight hci hrj hdr
      exact ⟨_, by simp [branchBorrowRightAt, hsep, branchBorrowRight_eq, he, replace2_eq], hm⟩
    · rw [if_neg hdr]
      exact handleBranchLeft_short cap h b i lo hi c hp hci (fun r' hr' => by rw [hrj] at hr'; cases hr'; exact hdr)

theorem handleBranch_spec (cap h : Nat) (b : Branch K (Branch K (Tree K V h))) (i : Nat) (lo hi : Option Int)
    (hp : RebPre cap (h+1) (b : Branch K (Tree K V (h+1))) i lo hi) :
    ∃ b2, handleBranch Cfg.repaired cap b i = some b2 ∧ RebPost cap (h+1) (b : Branch K (Tree K V (h+1))) b2 lo hi :=
  let ⟨b2, he, hm⟩ := handleBranch_short Cfg.repaired cap h b i lo hi hp.short (Or.inl rfl)
  ⟨b2, he, .of_mended hm⟩

end BPT.Py
