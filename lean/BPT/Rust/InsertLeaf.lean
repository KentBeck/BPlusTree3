import BPT.Core.Route
import BPT.Core.Occupancy
import BPT.Rust.InsertEqns
import BPT.Rust.Sized
/- `insert_into_leaf`: a full leaf that takes an absent key is the leaf with the key put in, cut in two
   (`splitLeafAt_eq`); the rest follows from the leaf lemmas of `Core/Route`. -/
namespace BPT.Rust
open BPT Tree
variable {K V : Type} [Keyed K]

/-- `sep` strictly above `lo` (the left half is not empty): what the parent needs to take `sep` among its keys -/
def InsOK (h : Nat) (lo hi : Option Int) (orig : List (K × V)) (k : K) (v : V) : InsRes K V h → Prop
  | .updated t' _ => Ordered h t' lo hi ∧ toList h t' = SMap.insert orig k v
  | .split a b sep _ => Ordered h a lo (some (ord sep)) ∧ Ordered h b (some (ord sep)) hi ∧ InB lo hi (ord sep) ∧
      (∀ x, lo = some x → x < ord sep) ∧ toList h a ++ toList h b = SMap.insert orig k v

/-- All that is used of the split point of a leaf: it is clamped so that both halves reach the minimum.
    `h` is `minKeys cap`, a variable here so that `omega` meets no division. -/
theorem leafSplitMid_bounds {cap n h : Nat} (hh : minKeys cap = h) (hn : 2 * h ≤ n) :
    h ≤ leafSplitMid cap n ∧ leafSplitMid cap n + h ≤ n := by
  unfold leafSplitMid
  rw [hh]
  have h1 : h ≤ n - h := by omega
  exact ⟨Nat.le_min.2 ⟨Nat.le_max_right _ _, h1⟩,
    Nat.le_trans (Nat.add_le_add_right (Nat.min_le_right _ _) _) (Nat.le_of_eq (Nat.sub_add_cancel (by omega)))⟩

omit [Keyed K] in
theorem splitLeafAt_eq (l : Leaf K V) (k : K) (v : V) (al : Allocs) {i mid : Nat}
    (hi : i ≤ l.keys.length) (hv : i ≤ l.vals.length) (hm : mid ≤ l.keys.length) (hmv : mid ≤ l.vals.length) :
    splitLeafAt l k v al i mid =
      match ((insertAt l.keys i k).drop (if i ≤ mid then mid + 1 else mid)).head? with
      | none => none
      | some sep => some (.split
          ({ id := l.id, keys := (insertAt l.keys i k).take (if i ≤ mid then mid + 1 else mid),
             vals := (insertAt l.vals i v).take (if i ≤ mid then mid + 1 else mid), next := al.leaf.alloc.1 } : Leaf K V)
          ({ id := al.leaf.alloc.1, keys := (insertAt l.keys i k).drop (if i ≤ mid then mid + 1 else mid),
             vals := (insertAt l.vals i v).drop (if i ≤ mid then mid + 1 else mid), next := l.next } : Leaf K V)
          sep none, { al with leaf := al.leaf.alloc.2 }) := by
  unfold splitLeafAt
  by_cases him : i ≤ mid
  · simp only [goesLeft, him, decide_true, if_true]
    rw [take_insertAt_le him hm, drop_insertAt_le him hm, take_insertAt_le him hmv,
      drop_insertAt_le him hmv]
    rfl
  · simp only [goesLeft, him, decide_false, Bool.false_eq_true, if_false]
    have hmi : mid < i := Nat.lt_of_not_le him
    rw [take_insertAt_gt hmi hi, drop_insertAt_gt hmi hi, take_insertAt_gt hmi hv, drop_insertAt_gt hmi hv]
    rfl

theorem insertLeafAbsent_correct (cap : Nat) (hcap : 4 ≤ cap) (l : Leaf K V) (lo hi : Option Int) (k : K) (v : V) (al : Allocs)
    (ho : Ordered 0 (l : Tree K V 0) lo hi) (hk : InB lo hi (ord k))
    (hnf : ∀ k', l.keys[lowerBound l.keys k]? = some k' → ord k' ≠ ord k) :
    ∃ res al', insertLeafAbsent cap l k v al (lowerBound l.keys k) = some (res, al') ∧ InsOK 0 lo hi (toList 0 (l : Tree K V 0)) k v res ∧
      res.old = (SMap.lookup (toList 0 (l : Tree K V 0)) k).map (·.2) ∧ ∀ m, Sized cap 0 (l : Tree K V 0) m → InsSized cap 0 m res := by
  have hl := ho.leaf_lens
  have hle := lowerBound_le l.keys k
  obtain ⟨hE, hlist, hnone⟩ := leaf_put_spec l lo hi k v ho hk hnf
  have hElen : (insertAt l.keys (lowerBound l.keys k) k).length = l.keys.length + 1 := length_insertAt
  unfold insertLeafAbsent
  simp only [isFull, decide_eq_true_eq]
  by_cases hfull : l.keys.length ≥ cap
  · rw [if_neg (not_not_intro hfull),
      if_neg (show ¬ l.keys.length < minKeys cap from Nat.not_lt.2 (Nat.le_trans (Nat.div_le_self cap 2) hfull))]
    -- the split point and the cut point as variables, so that only `leafSplitMid_bounds` is known of the first;
    -- the cut `m` is `M + 1` when the new entry goes left (`goesLeft`), else `M`
    obtain ⟨M, hM⟩ : ∃ M, leafSplitMid cap l.keys.length = M := ⟨_, rfl⟩
    obtain ⟨m, hmdef⟩ : ∃ m, (if lowerBound l.keys k ≤ M then M + 1 else M) = m := ⟨_, rfl⟩
    obtain ⟨hb1, hb2⟩ := leafSplitMid_bounds (cap := cap) (n := l.keys.length) rfl (Nat.le_trans (Nat.mul_div_le cap 2) hfull)
    rw [hM] at hb1 hb2
    obtain ⟨hMle, hpos, hmlt, hs⟩ := leaf_split_sizes (cap := cap) (p := m) (half_pos hcap) hb1 hb2 (by rw [← hmdef]; split <;> omega)
    rw [hM, splitLeafAt_eq l k v al hle (hl ▸ hle) hMle (hl ▸ hMle), hmdef]
    obtain ⟨sep, hh⟩ : ∃ sep, ((insertAt l.keys (lowerBound l.keys k) k).drop m).head? = some sep :=
      ⟨_, by rw [List.head?_drop, List.getElem?_eq_getElem (by rw [hElen]; exact hmlt)]⟩
    obtain ⟨hc, h4, h5, h6, h7⟩ :=
      leaf_cut_ins lo hi m sep l.id al.leaf.alloc.1 al.leaf.alloc.1 l.next hE hh hpos
    rw [hh]
    exact ⟨_, _, rfl, ⟨hc.left, hc.right, hc.inB, h4, h7.trans hlist⟩, by rw [hnone]; rfl,
      fun _ hm => hs _ _ h5 (h6.trans (congrArg (· - m) hElen)) hm.2⟩
  · rw [if_pos hfull]
    exact ⟨_, _, rfl, ⟨hE, hlist⟩, by rw [hnone]; rfl,
      fun _ hm => by show _ ≤ (insertAt l.keys _ k).length ∧ _; rw [hElen]; exact ⟨Nat.le_succ_of_le hm.1, Nat.lt_of_not_le hfull⟩⟩

theorem insertLeaf_correct (cap : Nat) (hcap : 4 ≤ cap) (l : Leaf K V) (lo hi : Option Int) (k : K) (v : V) (al : Allocs)
    (ho : Ordered 0 (l : Tree K V 0) lo hi) (hk : InB lo hi (ord k)) :
    ∃ res al', insertLeaf cap l k v al = some (res, al') ∧ InsOK 0 lo hi (toList 0 (l : Tree K V 0)) k v res ∧
      res.old = (SMap.lookup (toList 0 (l : Tree K V 0)) k).map (·.2) ∧ ∀ m, Sized cap 0 (l : Tree K V 0) m → InsSized cap 0 m res := by
  rcases lowerBound_hit_or_miss l.keys k with ⟨k', hk', heq⟩ | hnf
  · obtain ⟨_, hO, hlist, _⟩ := leaf_set_spec l lo hi k k' v ho hk' heq
    obtain ⟨old, hold, hlook⟩ := leaf_present_spec l lo hi k k' ho hk' heq
    rw [insertLeaf_present cap l k k' v al hk' heq, hold]
    exact ⟨_, _, rfl, ⟨hO, hlist⟩, by rw [hlook]; rfl, fun _ hm => hm⟩
  · rw [insertLeaf_absent cap l k v al hnf]
    exact insertLeafAbsent_correct cap hcap l lo hi k v al ho hk hnf

end BPT.Rust
