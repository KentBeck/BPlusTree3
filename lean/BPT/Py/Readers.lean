import BPT.Py.Inv
import BPT.Core.Leaves
/-
  The readers of the pure-Python map on a state satisfying `PInv`: lookup, the walk along `next` from `self.leaves`
  (`chain`, `__len__`) and `items(start_key, end_key)`, which yields the entries within `inRange`.
-/
namespace BPT.Py
open BPT Tree
open BPT.Rust (links links_succ links_zero ChainL firstOf link)
variable {K V : Type} [Keyed K]

theorem findRec_spec : ∀ (h : Nat) (t : Tree K V h) (lo hi : Option Int) (k : K),
    Ordered h t lo hi → findRec h t k = some (SMap.lookup (toList h t) k) := by
  intro h
  induction h with
  | zero =>
    intro t lo hi k ho
    unfold findRec
    simp only []
    rcases lowerBound_hit_or_miss (t : Leaf K V).keys k with ⟨k', hk', he⟩ | hnf
    · obtain ⟨v, hv, hlook⟩ := leaf_present_spec (t : Leaf K V) lo hi k k' ho hk' he
      simp only [hk', he, if_true, hv, hlook]
    · rw [leaf_absent_spec (t : Leaf K V) lo hi k ho hnf]
      cases hk' : (t : Leaf K V).keys[lowerBound (t : Leaf K V).keys k]? with
      | none => rfl
      | some k' => simp only [hnf k' hk', if_false]
  | succ h ih =>
    intro t lo hi k ho
    obtain ⟨c, rt⟩ := ho.route k
    unfold findRec
    simp only [arity_guard ho.arity, if_false, rt.get]
    rw [ih c _ _ k rt.child, rt.lookup]

theorem findLeafById_self (ls : List (Leaf K V)) (hnd : (ls.map (·.id)).Nodup) (l : Leaf K V) (hl : l ∈ ls) :
    findLeafById ls l.id = some l :=
  find?_of_nodup (fun (x : Leaf K V) => x.id) ls l hl hnd

theorem findLeafById_some {ls : List (Leaf K V)} {id : Nat} {l : Leaf K V} (h : findLeafById ls id = some l) : l ∈ ls ∧ l.id = id := by
  unfold findLeafById at h
  exact ⟨List.mem_of_find?_eq_some h, by simpa using List.find?_some h⟩

theorem chainFrom_eq (ls : List (Leaf K V)) (hnd : (ls.map (·.id)).Nodup) (hpos : ∀ l ∈ ls, l.id ≠ noneId) :
    ∀ (S : List (Leaf K V)) (fuel : Nat), (∀ l ∈ S, l ∈ ls) → ChainL (S.map link) noneId → S.length + 1 ≤ fuel →
      chainFrom ls fuel (firstOf (S.map link) noneId) = .ok S := by
  intro S
  induction S with
  | nil =>
    intro fuel _ _ hf
    cases fuel with
    | zero => exact absurd hf (Nat.not_succ_le_zero _)
    | succ f => simp [chainFrom, firstOf]
  | cons l S ih =>
    intro fuel hsub hch hf
    cases fuel with
    | zero => exact absurd hf (Nat.not_succ_le_zero _)
    | succ f =>
      have hl : l ∈ ls := hsub l List.mem_cons_self
      have hch' : l.next = firstOf (S.map link) noneId ∧ ChainL (S.map link) noneId := hch
      show chainFrom ls (f+1) l.id = _
      unfold chainFrom
      simp only [hpos l hl, if_false, findLeafById_self ls hnd l hl]
      rw [hch'.1, ih f (fun x hx => hsub x (List.mem_cons_of_mem _ hx)) hch'.2 (Nat.le_of_succ_le_succ hf)]
      rfl

/-- walking from the first leaf of any suffix `R` of a well-linked leaf list yields `R` -/
theorem chainFrom_suffix (ls : List (Leaf K V)) (hnd : (ls.map (·.id)).Nodup) (hpos : ∀ l ∈ ls, l.id ≠ noneId) :
    ∀ (R P : List (Leaf K V)) (fuel : Nat), ls = P ++ R → ChainL (R.map link) noneId → R.length + 1 ≤ fuel →
      chainFrom ls fuel (firstOf (R.map link) noneId) = .ok R :=
  fun R _ fuel hls hch hf => chainFrom_eq ls hnd hpos R fuel (fun _ hx => hls ▸ List.mem_append_right _ hx) hch hf

theorem chainFrom_at (s : PState K V) (hi : PInv s) (P R : List (Leaf K V)) (l : Leaf K V)
    (hls : leaves s.height s.root = P ++ l :: R) :
    chainFrom (leaves s.height s.root) ((leaves s.height s.root).length + 1) l.id = .ok (l :: R) := by
  have hch : ChainL ((l :: R).map link) noneId := Rust.chainL_suffix (P := P) (by rw [← hls]; exact hi.chain)
  exact chainFrom_suffix (leaves s.height s.root) hi.ids_nodup (fun l hl => (hi.id_bounds l hl).1) (l :: R) P _ hls hch
    (by rw [hls]; simp)

theorem chain_spec (s : PState K V) (hi : PInv s) : chain s = .ok (leaves s.height s.root) := by
  obtain ⟨l, R, hl, hh⟩ := hi.leaves_cons
  unfold chain
  rw [hh, chainFrom_at s hi [] R l hl, hl]

theorem len_spec (s : PState K V) (hi : PInv s) : len s = .ok (abs s).length := by
  unfold len
  rw [chain_spec s hi, Res.map_ok, leaves_keys_sum s.height s.root none none hi.ord]
  rfl

/-- `start_key <= key < end_key`, `None` = unbounded on that side -/
def inRange (a b : Option K) (k : K) : Bool :=
  (match a with | none => true | some a => decide (ord a ≤ ord k)) &&
  (match b with | none => true | some b => decide (ord k < ord b))

theorem cutStop_spec (b : Option K) {L : List (K × V)} (hs : SMap.Sorted L) :
    cutStop b L = L.filter (fun p => match b with | none => true | some b => decide (ord p.1 < ord b)) := by
  cases b with
  | none => simp only [cutStop]; rw [List.filter_eq_self.2 (fun _ _ => rfl)]
  | some e =>
    simp only [cutStop]
    exact hs.takeWhile_eq_filter (p := fun p => decide (ord p.1 < ord e)) (fun a b hab h => by simp at h ⊢; omega)

theorem filter_inRange (a b : Option K) (L : List (K × V)) :
    L.filter (fun p => inRange a b p.1) =
      (L.filter (fun p => match a with | none => true | some a => decide (ord a ≤ ord p.1))).filter
        (fun p => match b with | none => true | some b => decide (ord p.1 < ord b)) := by
  rw [List.filter_filter]
  congr 1
  funext p
  exact Bool.and_comm _ _

/-- the arity guard of `_find_leaf_for_key` never fires on an ordered tree -/
theorem routeLeaf_eq : ∀ (h : Nat) (t : Tree K V h) (lo hi : Option Int) (k : K), Ordered h t lo hi →
    routeLeaf h t k = Tree.routeLeaf h t k := by
  intro h
  induction h with
  | zero => intro _ _ _ _ _; rfl
  | succ h ih =>
    intro t lo hi k ho
    obtain ⟨c, rt⟩ := ho.route k
    unfold routeLeaf Tree.routeLeaf
    simp only [arity_guard ho.arity, if_false, rt.get]
    exact ih c _ _ k rt.child

/-- the leaf `_find_leaf_for_key` reaches, with the leaves before it (all entries below the key)
    and after it (all entries above the key) -/
theorem routeLeaf_spec : ∀ (h : Nat) (t : Tree K V h) (lo hi : Option Int) (a : K), Ordered h t lo hi →
    ∃ l P R lo' hi', routeLeaf h t a = some l ∧ leaves h t = P ++ l :: R ∧ Ordered 0 (l : Tree K V 0) lo' hi' ∧
      (∀ p ∈ P.flatMap Leaf.entries, ord p.1 < ord a) ∧ (∀ p ∈ R.flatMap Leaf.entries, ord a < ord p.1) := by
  intro h t lo hi a ho
  obtain ⟨P, l, R, lo', hi', h1, h2, h3, h4, h5⟩ := route_split h t lo hi a ho
  exact ⟨l, P, R, lo', hi', (routeLeaf_eq h t lo hi a ho).trans h1, h2, h3, h4, h5⟩

theorem abs_sorted (s : PState K V) (hi : PInv s) : SMap.Sorted (abs s) :=
  toList_sorted s.height s.root none none hi.ord

theorem itemsFrom_at (s : PState K V) (hi : PInv s) (P R : List (Leaf K V)) (l : Leaf K V)
    (hls : leaves s.height s.root = P ++ l :: R) (idx : Nat) (stop : Option K) :
    itemsFrom s l.id idx stop = .ok (cutStop stop (l.entries.drop idx ++ R.flatMap Leaf.entries)) := by
  unfold itemsFrom
  rw [chainFrom_at s hi P R l hls]
  rfl

/-- `items(start_key, end_key)` yields exactly the entries with `start_key <= key < end_key`, ascending -/
theorem items_spec (s : PState K V) (hi : PInv s) (a b : Option K) :
    items s a b = .ok ((abs s).filter (fun p => inRange a b p.1)) := by
  have hsorted := abs_sorted s hi
  rw [filter_inRange]
  cases a with
  | none =>
    obtain ⟨l, R, hl, hhead⟩ := hi.leaves_cons
    have hall : l.entries.drop 0 ++ R.flatMap Leaf.entries = abs s := by
      simp only [abs, toList, hl, List.flatMap_cons]; rfl
    simp only [items]
    rw [hhead, itemsFrom_at s hi [] R l hl, hall, cutStop_spec b hsorted]
    simp
  | some a =>
    -- the scan starts in the routed leaf at the lower bound of `a`: it walks over the entries `≥ a`
    obtain ⟨P, l, R, h1, h2, _, _, hge, _⟩ := filter_ge_route s.height s.root none none a hi.ord
    have hge : (abs s).filter (fun p => decide (ord a ≤ ord p.1)) = _ := hge
    simp only [items, (routeLeaf_eq s.height s.root none none a hi.ord).trans h1]
    rw [itemsFrom_at s hi P R l h2, ← hge, cutStop_spec b (hsorted.filter _)]

theorem items_unbounded (s : PState K V) (hi : PInv s) : items s none none = .ok (abs s) := by
  rw [items_spec s hi none none]
  exact congrArg Res.ok (List.filter_eq_self.2 fun _ _ => rfl)

end BPT.Py
