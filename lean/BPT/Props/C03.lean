import BPT.Rust.Range
import BPT.Props.C02
/-
  C03 — Rust range queries return exactly the entries inside the bounds.

  All 9 combinations of bound kinds are one statement (`Bound K` has three
  constructors on each side); endpoints present or absent, below the minimum or
  above the maximum, empty and inverted intervals are all just values of `lo`, `hi`.
  The result is always `.ok …` — never a panic.
-/
namespace BPT.Props.C03
open BPT BPT.Rust RawMap

variable {K V : Type} [Keyed K]

/-- **range(lo, hi)** yields exactly the entries whose keys satisfy both bounds, in ascending order -/
theorem range_eq_filter (s : RState K V) (lo hi : Bound K) (hs : SInv s) (hsm : Small s) :
    (view s).range Cfg.repaired lo hi = .ok ((abs s).filter (fun p => inBounds lo hi p.1)) :=
  view_range s lo hi hs hsm

/-- an empty or inverted interval yields nothing, without panicking -/
theorem empty_or_inverted_is_empty (s : RState K V) (lo hi : Bound K) (hs : SInv s) (hsm : Small s)
    (hempty : ∀ k : K, inBounds lo hi k = false) : (view s).range Cfg.repaired lo hi = .ok [] := by
  rw [range_eq_filter s lo hi hs hsm]
  refine congrArg Res.ok ?_
  rw [List.filter_eq_nil_iff]
  intro p _; simp [hempty p.1]

/-- `items_range(start, end)` is the half-open range `[start, end)`, `None` meaning unbounded -/
theorem items_range_eq (s : RState K V) (a b : Option K) (hs : SInv s) (hsm : Small s) :
    (view s).itemsRange Cfg.repaired a b = .ok ((abs s).filter (fun p =>
      (match a with | some x => decide (ord x ≤ ord p.1) | none => true) &&
      (match b with | some y => decide (ord p.1 < ord y) | none => true))) := by
  unfold RawMap.itemsRange
  rw [view_range s _ _ hs hsm]
  refine congrArg Res.ok ?_
  apply List.filter_congr
  intro p _
  cases a <;> cases b <;> simp [inBounds, loOK, upOK]

/-- membership form; the yielded list is strictly ascending, so every entry comes once -/
theorem mem_range_iff (s : RState K V) (lo hi : Bound K) (hs : SInv s) (hsm : Small s) :
    ∃ out, (view s).range Cfg.repaired lo hi = .ok out ∧ SMap.Sorted out ∧
      ∀ p, p ∈ out ↔ p ∈ abs s ∧ inBounds lo hi p.1 = true := by
  refine ⟨_, range_eq_filter s lo hi hs hsm, ?_, ?_⟩
  · exact (C02.items_strictly_ascending s hs).filter _
  · intro p; simp [List.mem_filter]

/-- the fully unbounded range is the whole map -/
theorem range_unbounded_all (s : RState K V) (hs : SInv s) (hsm : Small s) :
    (view s).range Cfg.repaired .unbounded .unbounded = .ok (abs s) := by
  rw [range_eq_filter s _ _ hs hsm]
  refine congrArg Res.ok ?_
  simp [inBounds, loOK, upOK]

/-- cutting an interval at `m`; the extra tests matter when `m` lies outside it -/
theorem range_split (s : RState K V) (lo hi : Bound K) (m : K) (hs : SInv s) (hsm : Small s) :
    ∃ l r w, (view s).range Cfg.repaired lo (.excluded m) = .ok l ∧
      (view s).range Cfg.repaired (.included m) hi = .ok r ∧
      (view s).range Cfg.repaired lo hi = .ok w ∧
      (∀ p, p ∈ w ↔ (p ∈ l ∧ upOK hi p.1 = true) ∨ (p ∈ r ∧ loOK lo p.1 = true)) := by
  refine ⟨_, _, _, range_eq_filter s _ _ hs hsm, range_eq_filter s _ _ hs hsm, range_eq_filter s _ _ hs hsm, ?_⟩
  intro p
  simp only [List.mem_filter, inBounds, loOK, upOK, Bool.and_eq_true, decide_eq_true_eq]
  constructor
  · rintro ⟨hm, h1, h2⟩
    by_cases h : ord p.1 < ord m
    · exact Or.inl ⟨⟨hm, h1, h⟩, h2⟩
    · exact Or.inr ⟨⟨hm, by omega, h2⟩, h1⟩
  · rintro (⟨⟨hm, h1, _⟩, h2⟩ | ⟨⟨hm, _, h2⟩, h1⟩)
    · exact ⟨hm, h1, h2⟩
    · exact ⟨hm, h1, h2⟩

/-- an `ItemIterator` started at the position of `start` honours the inclusiveness of an explicit end bound -/
theorem items_from_key_eq (s : RState K V) (start : K) (e : Bound K) (hs : SInv s) (hsm : Small s) :
    (view s).itemsFromKey Cfg.repaired start e = .ok ((abs s).filter (fun p => inBounds (.included start) e p.1)) :=
  view_itemsFromKey s start e hs hsm

/-! ### the repaired defects D1, D2 on their witnesses, on the pre-repair reader model -/

/-- capacity 4, keys 1,3,…,15 -/
def witness : Option (RState Int Nat) :=
  [1, 3, 5, 7, 9, 11, 13, 15].foldl (fun acc k => acc.bind fun s => (insert s (k : Int) (k.toNat)).map (·.1)) (some (freshState 4))

/-- D1 (as found): `range((Excluded(6), Unbounded))` drops 7, the first key above the absent excluded bound -/
theorem Legacy.range_excluded_absent_drops_first :
    (witness.map fun s => (view s).range { skipOnlyMatched := false } (.excluded 6) .unbounded) =
      some (.ok [(9, 9), (11, 11), (13, 13), (15, 15)]) ∧
    (witness.map fun s => (view s).range Cfg.repaired (.excluded 6) .unbounded) =
      some (.ok [(7, 7), (9, 9), (11, 11), (13, 13), (15, 15)]) := by decide +kernel

/-- D2 (as found): an iterator started at the position of 3 with the borrowed bound `Included(7)` stops before 7 -/
theorem Legacy.included_end_key_ignored :
    (witness.map fun s => (view s).itemsFromKey { honourEndIncl := false } 3 (.included 7)) = some (.ok [(3, 3), (5, 5)]) ∧
    (witness.map fun s => (view s).itemsFromKey Cfg.repaired 3 (.included 7)) = some (.ok [(3, 3), (5, 5), (7, 7)]) := by decide +kernel

/-- non-vacuity at `C02.demo_state`: an excluded bound on a present key, an included bound beyond the maximum -/
example : ∃ s : RState Int Nat, s.height = 2 ∧
    (view s).range Cfg.repaired (.excluded 12) (.included 100) =
      .ok ((abs s).filter (fun p => inBounds (.excluded (12 : Int)) (.included (100 : Int)) p.1)) := by
  obtain ⟨s, hs, hsm, hh, _, _⟩ := C02.demo_state
  exact ⟨s, hh, range_eq_filter s _ _ hs hsm⟩

end BPT.Props.C03
