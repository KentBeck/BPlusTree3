import BPT.Core.Surgery
import BPT.Rust.Model
/-
  `insertRec` unfolded once: what a branch does with the result of its routed child is `insertUp`, not recursive, so
  every fact about a call that has returned is one about `insertLeaf` and one about `insertUp` (`insertRec_induction`).
  That insert returns at all is a forward induction over `Ordered` and does not go through that principle.
-/
namespace BPT.Rust
open BPT Tree
variable {K V : Type} [Keyed K]

theorem insertLeaf_present (cap : Nat) (l : Leaf K V) (k k' : K) (v : V) (al : Allocs)
    (hk' : l.keys[lowerBound l.keys k]? = some k') (he : ord k' = ord k) :
    insertLeaf cap l k v al =
      match l.vals[lowerBound l.keys k]? with
      | some old => some (.updated ({ l with vals := setAt l.vals (lowerBound l.keys k) v } : Leaf K V) (some old), al)
      | none => some (.updated (l : Leaf K V) none, al) := by
  simp only [insertLeaf, hk', he, decide_true, if_true]
  cases l.vals[lowerBound l.keys k]? <;> rfl

theorem insertLeaf_absent (cap : Nat) (l : Leaf K V) (k : K) (v : V) (al : Allocs)
    (hnf : ∀ k', l.keys[lowerBound l.keys k]? = some k' → ord k' ≠ ord k) :
    insertLeaf cap l k v al = insertLeafAbsent cap l k v al (lowerBound l.keys k) := by
  unfold insertLeaf
  cases hk' : l.keys[lowerBound l.keys k]? with
  | none => simp only [hk', Bool.false_eq_true, if_false]
  | some k' => simp only [hk', hnf k' hk', decide_false, Bool.false_eq_true, if_false]

/-- the arm of `insert_recursive` after the child has returned: an updated child is put back; a split child goes in through
    `insert_child_and_split_if_needed`, which splits `b` in turn when it is full -/
def insertUp (cap : Nat) {h : Nat} (b : Branch K (Tree K V h)) (i : Nat) :
    InsRes K V h × Allocs → Option (InsRes K V (h+1) × Allocs)
  | (.updated c' old, al') => some (.updated (b.replace1 i c' : Branch K (Tree K V h)) old, al')
  | (.split l r sep old, al') =>
    if isFull cap b.keys.length then
      match (b.split1 i l r sep).keys[branchSplitMid cap]? with
      | none => none
      | some pk =>
        some (.split ({ id := b.id, keys := (b.split1 i l r sep).keys.take (branchSplitMid cap),
                        children := (b.split1 i l r sep).children.take (branchSplitMid cap + 1) } : Branch K (Tree K V h))
                     ({ id := al'.branch.alloc.1, keys := (b.split1 i l r sep).keys.drop (branchSplitMid cap + 1),
                        children := (b.split1 i l r sep).children.drop (branchSplitMid cap + 1) } : Branch K (Tree K V h))
                     pk old, { al' with branch := al'.branch.alloc.2 })
    else some (.updated (b.split1 i l r sep : Branch K (Tree K V h)) old, al')

/-- the graph of `insertUp` on successful calls, with the policy read out (`cap ≤ n`, `cap / 2`) -/
inductive InsUp (cap : Nat) {h : Nat} (b : Branch K (Tree K V h)) (i : Nat) :
    InsRes K V h × Allocs → InsRes K V (h+1) × Allocs → Prop
  | updated (c' : Tree K V h) (old : Option V) (al : Allocs) :
      InsUp cap b i (.updated c' old, al) (.updated (b.replace1 i c' : Branch K (Tree K V h)) old, al)
  | fits (l rt : Tree K V h) (sep : K) (old : Option V) (al : Allocs) (hroom : b.keys.length < cap) :
      InsUp cap b i (.split l rt sep old, al) (.updated (b.split1 i l rt sep : Branch K (Tree K V h)) old, al)
  | cut (l rt : Tree K V h) (sep : K) (old : Option V) (al : Allocs) (pk : K) (hfull : cap ≤ b.keys.length)
      (hpk : (b.split1 i l rt sep).keys[cap / 2]? = some pk) :
      InsUp cap b i (.split l rt sep old, al)
        (.split ({ id := b.id, keys := (b.split1 i l rt sep).keys.take (cap / 2),
                   children := (b.split1 i l rt sep).children.take (cap / 2 + 1) } : Branch K (Tree K V h))
                ({ id := al.branch.alloc.1, keys := (b.split1 i l rt sep).keys.drop (cap / 2 + 1),
                   children := (b.split1 i l rt sep).children.drop (cap / 2 + 1) } : Branch K (Tree K V h)) pk old,
         { al with branch := al.branch.alloc.2 })

omit [Keyed K] in
theorem insertUp_eq_some (cap : Nat) {h : Nat} (b : Branch K (Tree K V h)) (i : Nat) (r : InsRes K V h × Allocs)
    {q : InsRes K V (h+1) × Allocs} : insertUp cap b i r = some q ↔ InsUp cap b i r q := by
  constructor
  · intro hu
    obtain ⟨cres, al⟩ := r
    cases cres with
    | updated c' old => cases hu; exact .updated c' old al
    | split l rt sep old =>
      simp only [insertUp, isFull, branchSplitMid, minKeys, decide_eq_true_eq] at hu
      by_cases hfull : b.keys.length ≥ cap
      · rw [if_pos hfull] at hu
        cases hpk : (b.split1 i l rt sep).keys[cap / 2]? with
        | none => rw [hpk] at hu; cases hu
        | some pk => rw [hpk] at hu; cases hu; exact .cut l rt sep old al pk hfull hpk
      · rw [if_neg hfull] at hu
        cases hu
        exact .fits l rt sep old al (Nat.lt_of_not_le hfull)
  · intro hq
    cases hq with
    | updated c' old al => rfl
    | fits l rt sep old al hroom => simp only [insertUp, isFull, decide_eq_true_eq, if_neg (Nat.not_le.2 hroom)]
    | cut l rt sep old al pk hfull hpk =>
      simp only [insertUp, isFull, branchSplitMid, minKeys, decide_eq_true_eq, if_pos hfull, hpk]

theorem insertRec_succ (cap h : Nat) (b : Branch K (Tree K V h)) (k : K) (v : V) (al : Allocs) :
    insertRec cap (h+1) (b : Tree K V (h+1)) k v al =
      match b.children[upperBound b.keys k]? with
      | none => some (.updated (b : Branch K (Tree K V h)) none, al)
      | some c => (insertRec cap h c k v al).bind (insertUp cap b (upperBound b.keys k)) := by
  rw [insertRec]
  cases b.children[upperBound b.keys k]? with
  | none => rfl
  | some c =>
    simp only []
    cases insertRec cap h c k v al with
    | none => rfl
    | some p =>
      obtain ⟨r, al'⟩ := p
      cases r with
      | updated c' old => rfl
      | split l r sep old => rfl

theorem insertRec_induction (cap : Nat) (k : K) (v : V)
    (P : (h : Nat) → Tree K V h → Allocs → InsRes K V h → Allocs → Prop)
    (leaf : ∀ (l : Leaf K V) al res al', insertLeaf cap l k v al = some (res, al') → P 0 l al res al')
    (stay : ∀ h (b : Branch K (Tree K V h)) al, b.children[upperBound b.keys k]? = none → P (h+1) b al (.updated b none) al)
    (up : ∀ h (b : Branch K (Tree K V h)) c al cres al1 res al', b.children[upperBound b.keys k]? = some c →
      P h c al cres al1 →
      insertUp cap b (upperBound b.keys k) (cres, al1) = some (res, al') → P (h+1) b al res al') :
    ∀ h (t : Tree K V h) al res al', insertRec cap h t k v al = some (res, al') → P h t al res al' := by
  intro h
  induction h with
  | zero => intro t al res al' he; exact leaf t al res al' he
  | succ h ih =>
    intro t al res al' he
    rw [insertRec_succ] at he
    cases hci : (Branch.children t)[upperBound (Branch.keys t) k]? with
    | none =>
      simp only [hci] at he
      cases he
      exact stay h t al hci
    | some c =>
      simp only [hci] at he
      cases hrec : insertRec cap h c k v al with
      | none => rw [hrec] at he; cases he
      | some p => rw [hrec] at he; exact up h t c al p.1 p.2 res al' hci (ih c al p.1 p.2 hrec) he

section
omit [Keyed K]

def InsRes.flat {β : Type} {h : Nat} (g : Tree K V h → List β) : InsRes K V h → List β
  | .updated t _ => g t
  | .split a b _ _ => g a ++ g b

def InsRes.old {h : Nat} : InsRes K V h → Option V
  | .updated _ o => o
  | .split _ _ _ o => o

theorem insertUp_flat (cap : Nat) {β : Type} {h : Nat} (f : Tree K V h → List β) (b : Branch K (Tree K V h)) {i : Nat}
    (hi : i < b.children.length) {r : InsRes K V h × Allocs} (res : InsRes K V (h+1)) (al' : Allocs)
    (hu : insertUp cap b i r = some (res, al')) :
    res.flat (fun t : Tree K V (h+1) => (Branch.children t).flatMap f) =
      (b.children.take i).flatMap f ++ r.1.flat f ++ (b.children.drop (i+1)).flatMap f := by
  cases (insertUp_eq_some cap b i r).1 hu with
  | updated c' old al => exact flatMap_setAt f _ _ _
  | fits l rt sep old al _ => exact flatMap_split1 f hi
  | cut l rt sep old al pk _ _ =>
    show List.flatMap f (List.take _ _) ++ List.flatMap f (List.drop _ _) = _
    rw [← List.flatMap_append, List.take_append_drop]
    exact flatMap_split1 f hi

theorem insertUp_leafAlloc (cap : Nat) {h : Nat} (b : Branch K (Tree K V h)) {i : Nat} {r : InsRes K V h × Allocs}
    (res : InsRes K V (h+1)) (al' : Allocs) (hu : insertUp cap b i r = some (res, al')) : al'.leaf = r.2.leaf := by
  cases (insertUp_eq_some cap b i r).1 hu <;> rfl

end

end BPT.Rust
