import BPT.Arena.Proofs
/-
  C16 — CompactArena handles stay valid and unique until they are released.

  The arena API as a step function over operation histories, against a partial map from handles to items
  (`SpecStep`); the work on single calls is in `BPT/Arena/Proofs.lean`.
-/
namespace BPT.Props.C16
open BPT BPT.Arena

variable {T : Type}

inductive Op (T : Type) where
  | allocate (x : T)
  | deallocate (id : Nat)            -- `deallocate` and `deallocate_with_default`
  | deallocateNoReturn (id : Nat)
  | get (id : Nat)                   -- also the read half of `get_mut`
  | write (id : Nat) (x : T)         -- store through `get_mut`
  | contains (id : Nat)
  | counts                           -- len / allocated_count / is_empty / free_count / stats
  | clear
  | compact

inductive Out (T : Type) where
  | handle (id : Nat)
  | item (o : Option T)
  | flag (b : Bool)
  | counts (len free : Nat) (empty : Bool)
  | unit

def step (dflt : T) (a : Arena T) : Op T → Res (Arena T × Out T)
  | .allocate x => (a.allocate x).map (fun r => (r.2, .handle r.1))
  | .deallocate id => (a.deallocate dflt id).map (fun r => (r.2, .item r.1))
  | .deallocateNoReturn id => .ok ((a.deallocateNoReturn id).2, .flag (a.deallocateNoReturn id).1)
  | .get id => .ok (a, .item (a.get id))
  | .write id x => .ok (a.modify id (fun _ => x), .item (a.get id))
  | .contains id => .ok (a, .flag (a.contains id))
  | .counts => .ok (a, .counts a.len a.freeCount a.isEmpty)
  | .clear => .ok (a.clear, .unit)
  | .compact => .ok (a.compact, .unit)

def run (dflt : T) : Arena T → List (Op T) → Res (Arena T × List (Out T))
  | a, [] => .ok (a, [])
  | a, op :: ops => (step dflt a op).bind fun r => (run dflt r.1 ops).map fun r' => (r'.1, r.2 :: r'.2)

/-- The reference semantics of one call, on the partial map `g : handle → item`
    (`g' ` after the call).  `compact` renumbers handles, so it is specified on
    the list of live items instead (see `compact_keeps_live`). -/
def SpecStep (g : Nat → Option T) : Op T → Out T → (Nat → Option T) → Prop
  | .allocate x, .handle id, g' => id ≠ nullId ∧ g id = none ∧ g' id = some x ∧ ∀ j, j ≠ id → g' j = g j
  | .deallocate id, .item o, g' => o = g id ∧ g' id = none ∧ ∀ j, j ≠ id → g' j = g j
  | .deallocateNoReturn id, .flag b, g' => b = (g id).isSome ∧ g' id = none ∧ ∀ j, j ≠ id → g' j = g j
  | .get id, .item o, g' => o = g id ∧ g' = g
  | .write id x, .item o, g' => o = g id ∧ g' id = (g id).map (fun _ => x) ∧ ∀ j, j ≠ id → g' j = g j
  | .contains id, .flag b, g' => b = (g id).isSome ∧ g' = g
  | .counts, .counts _ _ _, g' => g' = g
  | .clear, .unit, g' => ∀ j, g' j = none
  | .compact, .unit, _ => True
  | _, _, _ => False

/-- **Step theorem.** On a well-formed arena every call that returns behaves as the reference map says
    and keeps the arena well-formed; the third conjunct follows from the first and is kept beside it. -/
theorem step_refines (dflt : T) (a a' : Arena T) (op : Op T) (out : Out T) (h : AInv a)
    (hs : step dflt a op = .ok (a', out)) :
    AInv a' ∧ SpecStep a.get op out a'.get ∧ a'.len + a'.freeCount = a'.storage.length := by
  suffices AInv a' ∧ SpecStep a.get op out a'.get from ⟨this.1, this.2, (counters a' this.1).1⟩
  cases op with
  | allocate x =>
    obtain ⟨r, he, hr⟩ := Res.map_eq_ok hs
    cases hr
    obtain ⟨hinv, hnn, hfresh, hnew, hframe, _⟩ := allocate_spec a h x r.1 r.2 he
    exact ⟨hinv, hnn, hfresh, hnew, hframe⟩
  | deallocate id =>
    obtain ⟨r, he, hr⟩ := Res.map_eq_ok hs
    cases hr
    cases hg : a.get id with
    | none =>
      rw [deallocate_dead dflt a h id hg] at he
      cases he
      exact ⟨h, hg.symm, hg, fun _ _ => rfl⟩
    | some x =>
      obtain ⟨a1, he1, hinv, h1, h2, _⟩ := deallocate_live dflt a h id x hg
      rw [he1] at he
      cases he
      exact ⟨hinv, hg.symm, h1, h2⟩
  | deallocateNoReturn id =>
    cases hs
    cases hg : a.get id with
    | none =>
      rw [deallocateNoReturn_dead a h id hg]
      exact ⟨h, by rw [hg]; rfl, hg, fun _ _ => rfl⟩
    | some x =>
      obtain ⟨a1, he, hinv, h1, h2, _⟩ := deallocateNoReturn_live a h id x hg
      rw [he]
      exact ⟨hinv, by rw [hg]; rfl, h1, h2⟩
  | get id =>
    cases hs
    exact ⟨h, rfl, rfl⟩
  | write id x =>
    cases hs
    obtain ⟨hinv, hnew, hframe, _⟩ := modify_spec a h id (fun _ => x)
    exact ⟨hinv, rfl, hnew, hframe⟩
  | contains id =>
    cases hs
    exact ⟨h, contains_eq a id, rfl⟩
  | counts =>
    cases hs
    exact ⟨h, rfl⟩
  | clear =>
    cases hs
    obtain ⟨hinv, hnone, _⟩ := clear_spec a
    exact ⟨hinv, hnone⟩
  | compact =>
    cases hs
    obtain ⟨hinv, _⟩ := compact_spec a h
    exact ⟨hinv, trivial⟩

theorem run_cons_ok {dflt : T} {a a' : Arena T} {op : Op T} {ops : List (Op T)} {outs : List (Out T)}
    (h : run dflt a (op :: ops) = .ok (a', outs)) :
    ∃ a1 o outs1, step dflt a op = .ok (a1, o) ∧ run dflt a1 ops = .ok (a', outs1) ∧ outs = o :: outs1 := by
  obtain ⟨r, hs, h⟩ := Res.bind_eq_ok h
  obtain ⟨q, hq, he⟩ := Res.map_eq_ok h
  cases he
  exact ⟨r.1, r.2, q.2, hs, hq, rfl⟩

theorem run_induction (dflt : T) {P : Arena T → List (Op T) → List (Out T) → Arena T → Prop}
    (nil : ∀ {a}, AInv a → P a [] [] a)
    (cons : ∀ {a op a1 o ops outs a'}, AInv a1 → SpecStep a.get op o a1.get → P a1 ops outs a' →
      P a (op :: ops) (o :: outs) a') :
    ∀ (ops : List (Op T)) (a a' : Arena T) (outs : List (Out T)), AInv a → run dflt a ops = .ok (a', outs) →
      P a ops outs a' := by
  intro ops
  induction ops with
  | nil => intro a a' outs h hr; cases hr; exact nil h
  | cons op ops ih =>
    intro a a' outs h hr
    obtain ⟨a1, o, outs1, hs, hr1, rfl⟩ := run_cons_ok hr
    obtain ⟨hinv, hspec, _⟩ := step_refines dflt a a1 op o h hs
    exact cons hinv hspec (ih a1 a' outs1 hinv hr1)

/-- **Well-formedness is kept along every returning history**, from any well-formed arena. -/
theorem reachable_inv (dflt : T) (ops : List (Op T)) :
    ∀ (a a' : Arena T) (outs : List (Out T)), AInv a → run dflt a ops = .ok (a', outs) → AInv a' :=
  run_induction dflt (P := fun _ _ _ a' => AInv a') (fun h => h) (fun _ _ ih => ih) ops

theorem reachable_from_new (dflt : T) (ops : List (Op T)) (a' : Arena T) (outs : List (Out T))
    (hr : run dflt Arena.empty ops = .ok (a', outs)) : AInv a' :=
  reachable_inv dflt ops _ _ _ ainv_empty hr

/-- while a slot is free or the arena is below the 2³²−1 limit, every call returns. -/
theorem step_ok (dflt : T) (a : Arena T) (op : Op T) (h : AInv a)
    (hroom : a.free ≠ [] ∨ a.storage.length < nullId) : ∃ r, step dflt a op = .ok r := by
  cases op with
  | allocate x =>
    obtain ⟨id, a', he⟩ := allocate_ok a h x hroom
    exact ⟨(a', .handle id), by simp only [step, he, Res.map_ok]⟩
  | deallocate id =>
    cases hg : a.get id with
    | none => exact ⟨(a, .item none), by simp only [step, deallocate_dead dflt a h id hg, Res.map_ok]⟩
    | some x =>
      obtain ⟨a1, he, _⟩ := deallocate_live dflt a h id x hg
      exact ⟨(a1, .item (some x)), by simp only [step, he, Res.map_ok]⟩
  | deallocateNoReturn id => exact ⟨_, rfl⟩
  | get id => exact ⟨_, rfl⟩
  | write id x => exact ⟨_, rfl⟩
  | contains id => exact ⟨_, rfl⟩
  | counts => exact ⟨_, rfl⟩
  | clear => exact ⟨_, rfl⟩
  | compact => exact ⟨_, rfl⟩

/-- a handle returned by `allocate` is never null and never equal to a live handle -/
theorem allocate_fresh (a a' : Arena T) (h : AInv a) (x : T) (id : Nat) (he : a.allocate x = .ok (id, a')) :
    id ≠ nullId ∧ a.get id = none ∧ a'.get id = some x := by
  obtain ⟨_, hnn, hfresh, hnew, _⟩ := allocate_spec a h x id a' he
  exact ⟨hnn, hfresh, hnew⟩

/-- the null handle and every handle at or beyond the storage length (never issued) answer nothing -/
theorem get_other_none (a : Arena T) (id : Nat) (h : id = nullId ∨ a.storage.length ≤ id) : a.get id = none := by
  rcases h with rfl | h
  · exact get_null a
  · exact get_out_of_range a h

/-- releasing yields the item exactly once: the second release fails and changes nothing -/
theorem release_once (dflt : T) (a : Arena T) (h : AInv a) (id : Nat) (x : T) (hg : a.get id = some x) :
    ∃ a1, a.deallocate dflt id = .ok (some x, a1) ∧ a1.deallocate dflt id = .ok (none, a1) ∧
      a1.deallocateNoReturn id = (false, a1) := by
  obtain ⟨a1, he, hinv, hnone, _⟩ := deallocate_live dflt a h id x hg
  exact ⟨a1, he, deallocate_dead dflt a1 hinv id hnone, deallocateNoReturn_dead a1 hinv id hnone⟩

/-- Stands for a release interrupted by a panic of `T::default()` (no outcome of the model): `deallocate` clears the
    mask bit and pushes the index *before* `mem::take`, so a panic there leaves what `deallocate_no_return` leaves.
    That is checked by the `faultd` lines of the correspondence run, not proved: the statement is
    `Arena.deallocateNoReturn_live`. -/
theorem release_interrupted_by_default_panic (a : Arena T) (h : AInv a) (id : Nat) (x : T) (hg : a.get id = some x) :
    ∃ a', a.deallocateNoReturn id = (true, a') ∧ AInv a' ∧ a'.get id = none ∧
      (∀ j, j ≠ id → a'.get j = a.get j) ∧ a'.len + 1 = a.len ∧ a'.freeCount = a.freeCount + 1 :=
  deallocateNoReturn_live a h id x hg

/-- `len` is the number of handles for which `get` answers; `free_count` the rest of the slots -/
theorem counters_exact (a : Arena T) (h : AInv a) :
    a.len = ((List.range a.storage.length).filter (fun i => (a.get i).isSome)).length ∧
    a.freeCount = a.storage.length - a.len ∧ a.isEmpty = (a.len == 0) := by
  exact ⟨len_eq_live_handles a h, Nat.eq_sub_of_add_eq' (counters a h).1, rfl⟩

theorem clear_invalidates_all (a : Arena T) : ∀ id, a.clear.get id = none := by
  obtain ⟨_, hnone, _⟩ := clear_spec a
  exact hnone

theorem compact_keeps_live (a : Arena T) (h : AInv a) :
    a.compact.liveItems = a.liveItems ∧ a.compact.len = a.len ∧ AInv a.compact := by
  obtain ⟨hinv, hlive, hlen, _⟩ := compact_spec a h
  exact ⟨hlive, hlen, hinv⟩

/-- after `compact` the live handles are exactly `0 .. len-1`, handle `i` holding the `i`-th live item in old slot
    order (the real code computes an index mapping and discards it), and nothing is left to reuse -/
theorem compact_handles_dense (a : Arena T) (h : AInv a) (i : Nat) :
    a.compact.get i = a.liveItems[i]? ∧ a.compact.freeCount = 0 ∧ a.compact.storage.length = a.len :=
  ⟨get_of_free_nil (compact_spec a h).1 rfl i, rfl, liveItems_length a h⟩

/-- freed slots are reused: while the free list is not empty `allocate` does not extend the storage -/
theorem allocate_reuses (a a' : Arena T) (h : AInv a) (x : T) (id : Nat) (he : a.allocate x = .ok (id, a'))
    (hf : a.free ≠ []) : a'.storage.length = a.storage.length := by
  obtain ⟨_, _, _, _, _, _, hlen⟩ := allocate_spec a h x id a' he
  rwa [if_neg hf] at hlen

/-- the calls `ops` answered `outs` one by one as `SpecStep` allows, from the map `g` to the map `g'` -/
def SpecRun : (Nat → Option T) → List (Op T) → List (Out T) → (Nat → Option T) → Prop
  | g, [], [], g' => g' = g
  | g, op :: ops, out :: outs, g' => ∃ g1, SpecStep g op out g1 ∧ SpecRun g1 ops outs g'
  | _, _, _, _ => False

/-- **History theorem.** Every returning history from a well-formed arena answered call by call as the reference map
    answers, and `get` of the final arena is the reference's final state.  Left open: the map after a `compact`
    (`compact_handles_dense`) and what `counts` reports (`counters_exact`). -/
theorem run_refines (dflt : T) (ops : List (Op T)) :
    ∀ (a a' : Arena T) (outs : List (Out T)), AInv a → run dflt a ops = .ok (a', outs) →
      SpecRun a.get ops outs a'.get :=
  run_induction dflt (P := fun a ops outs a' => SpecRun a.get ops outs a'.get) (fun _ => rfl)
    (fun _ hs ih => ⟨_, hs, ih⟩) ops

/-- `run_refines` from `new()`: the reference map starts empty -/
theorem history_from_new (dflt : T) (ops : List (Op T)) (a' : Arena T) (outs : List (Out T))
    (hr : run dflt Arena.empty ops = .ok (a', outs)) : SpecRun (fun _ => none) ops outs a'.get := by
  have := run_refines dflt ops _ _ _ ainv_empty hr
  have he : (Arena.empty : Arena T).get = fun _ => none := funext (clear_invalidates_all Arena.empty)
  rwa [he] at this

theorem run_outputs_length (dflt : T) (ops : List (Op T)) :
    ∀ (a a' : Arena T) (outs : List (Out T)), run dflt a ops = .ok (a', outs) → outs.length = ops.length := by
  induction ops with
  | nil => intro a a' outs hr; cases hr; rfl
  | cons op ops ih =>
    intro a a' outs hr
    obtain ⟨a1, o, outs1, _, hr1, rfl⟩ := run_cons_ok hr
    rw [List.length_cons, List.length_cons, ih a1 a' outs1 hr1]

theorem SpecStep.keeps_live {g g' : Nat → Option T} {op : Op T} {out : Out T} (hs : SpecStep g op out g') {id : Nat}
    (hl : (g id).isSome) (hop : op ≠ .deallocate id ∧ op ≠ .deallocateNoReturn id ∧ op ≠ .clear ∧ op ≠ .compact) :
    (g' id).isSome := by
  obtain ⟨hdealloc, hdeallocNR, hclear, hcompact⟩ := hop
  cases op with
  | allocate x =>
    cases out <;> simp only [SpecStep] at hs
    rename_i j
    obtain ⟨_, hfresh, _, hframe⟩ := hs
    by_cases hj : id = j
    · subst hj; rw [hfresh] at hl; cases hl
    · rw [hframe id hj]; exact hl
  | deallocate j =>
    cases out <;> simp only [SpecStep] at hs
    obtain ⟨_, _, hframe⟩ := hs
    rw [hframe id (fun e => hdealloc (e ▸ rfl))]; exact hl
  | deallocateNoReturn j =>
    cases out <;> simp only [SpecStep] at hs
    obtain ⟨_, _, hframe⟩ := hs
    rw [hframe id (fun e => hdeallocNR (e ▸ rfl))]; exact hl
  | get j => cases out <;> simp only [SpecStep] at hs; rw [hs.2]; exact hl
  | write j x =>
    cases out <;> simp only [SpecStep] at hs
    obtain ⟨_, hnew, hframe⟩ := hs
    by_cases hj : id = j
    · subst hj; rw [hnew]; simpa using hl
    · rw [hframe id hj]; exact hl
  | contains j => cases out <;> simp only [SpecStep] at hs; rw [hs.2]; exact hl
  | counts => cases out <;> simp only [SpecStep] at hs; rw [hs]; exact hl
  | clear => exact absurd rfl hclear
  | compact => exact absurd rfl hcompact

/-- a live `id` still answers after any stretch of calls that neither release it nor clear or compact the arena -/
theorem live_handle_stays (dflt : T) (ops : List (Op T)) :
    ∀ (a a' : Arena T) (outs : List (Out T)) (id : Nat), AInv a → run dflt a ops = .ok (a', outs) →
      (a.get id).isSome →
      (∀ op ∈ ops, op ≠ .deallocate id ∧ op ≠ .deallocateNoReturn id ∧ op ≠ .clear ∧ op ≠ .compact) →
      (a'.get id).isSome := by
  intro a a' outs id h hr
  exact run_induction dflt
    (P := fun a ops _ a' => (a.get id).isSome →
      (∀ op ∈ ops, op ≠ .deallocate id ∧ op ≠ .deallocateNoReturn id ∧ op ≠ .clear ∧ op ≠ .compact) → (a'.get id).isSome)
    (fun _ hl _ => hl)
    (fun _ hs ih hl hops =>
      ih (hs.keeps_live hl (hops _ List.mem_cons_self)) (fun o ho => hops o (List.mem_cons_of_mem _ ho)))
    ops a a' outs h hr

/-- **No handle is issued twice while live** (history form): an `allocate` after such a stretch of calls never returns
    `id` again -/
theorem no_reissue_while_live (dflt : T) (ops : List (Op T)) (a a1 a2 : Arena T) (outs : List (Out T)) (id id' : Nat)
    (x : T) (h : AInv a) (hr : run dflt a ops = .ok (a1, outs)) (hl : (a.get id).isSome)
    (hops : ∀ op ∈ ops, op ≠ .deallocate id ∧ op ≠ .deallocateNoReturn id ∧ op ≠ .clear ∧ op ≠ .compact)
    (he : a1.allocate x = .ok (id', a2)) : id' ≠ id := by
  have h1 := reachable_inv dflt ops a a1 outs h hr
  have hl1 := live_handle_stays dflt ops a a1 outs id h hr hl hops
  obtain ⟨_, hfresh, _⟩ := allocate_fresh a1 a2 h1 x id' he
  intro e; subst e; rw [hfresh] at hl1; simp at hl1

/-- non-vacuity: handle 1 survives a stretch with reuse of slot 0, and the allocation after it returns 0, not 1 -/
example :
    (run 0 (Arena.empty : Arena Nat) [.allocate 5, .allocate 6, .deallocate 0, .write 1 7, .allocate 9, .get 1]).map
        (fun r => r.2) = .ok [.handle 0, .handle 1, .item (some 5), .item (some 6), .handle 0, .item (some 7)] := by
  rfl

/-- non-vacuity: a history with reuse, double release and a dead handle -/
example :
    (run 0 (Arena.empty : Arena Nat)
      [.allocate 5, .allocate 6, .deallocate 0, .deallocate 0, .allocate 9, .get 0, .get 7, .counts]).map
        (fun r => r.1.storage) = .ok [9, 6] := by
  rfl

/-- D5 (as found): without the "arena full" refusal the 2³²-th allocation hands out the null handle -/
theorem Legacy.allocate_returns_null (a : Arena T) (x : T) (hf : a.free = []) (hl : a.storage.length = nullId) :
    ∃ a', allocateL (nullId + 1) a x = .ok (nullId, a') := by
  simp [allocateL, hf, hl]

theorem allocate_full_refused (a : Arena T) (x : T) (hf : a.free = []) (hl : a.storage.length = nullId) :
    a.allocate x = .panic := by
  rw [allocate_grow a x hf, hl, if_neg (Nat.lt_irrefl _)]

end BPT.Props.C16
