import BPT.Rust.InsertLeaf
/- `insert_recursive`: one induction for everything that needs the tree to be ordered (refinement of `SMap.insert`,
   the returned old value, and occupancy as `Sized → InsSized`: no occupancy is assumed, insert never panics on an
   ordered tree); its step is a fact about `insertUp` at the routed child. -/
namespace BPT.Rust
open BPT Tree
variable {K V : Type} [Keyed K]

theorem insertUp_correct (cap : Nat) (hcap : 4 ≤ cap) {h : Nat} {b : Branch K (Tree K V h)} {lo hi : Option Int} {k : K}
    {c : Tree K V h} (v : V) (r : Route h b lo hi k c) (cres : InsRes K V h) (al1 : Allocs)
    (hok : InsOK h (loAt b.keys lo (upperBound b.keys k)) (hiAt b.keys hi (upperBound b.keys k)) (toList h c) k v cres)
    (hcs : ∀ m, Sized cap h c m → InsSized cap h m cres) :
    ∃ res al', insertUp cap b (upperBound b.keys k) (cres, al1) = some (res, al') ∧
      InsOK (h+1) lo hi (toList (h+1) b) k v res ∧ res.old = cres.old ∧
      ∀ m, Sized cap (h+1) b m → InsSized cap (h+1) m res := by
  cases cres with
  | updated c' old =>
    exact ⟨_, _, rfl, ⟨r.replace1 hok.1, r.replace1_toList (SMap.Local.insert k v) hok.2⟩, rfl,
      fun m hs => hs.replace1 _ (hcs _ (hs.2.2 c r.mem))⟩
  | split l rt sep old =>
    obtain ⟨hl, hr, hsep, hstrict, hlr⟩ := hok
    -- the widened node; each of its children holds `cap / 2` keys as soon as `b` is within occupancy
    obtain ⟨hb1, _, hb1l, hlen, hch⟩ := r.split1 (SMap.Local.insert k v) ⟨hl, hr, hsep⟩ hstrict hlr
      (fun x => ∀ m, Sized cap (h+1) b m → Sized cap h x (cap / 2))
      (fun _ hs => (hcs _ (hs.2.2 c r.mem)).1) (fun _ hs => (hcs _ (hs.2.2 c r.mem)).2) (fun x hx _ hs => hs.2.2 x hx)
    by_cases hroom : b.keys.length < cap
    · refine ⟨_, _, (insertUp_eq_some ..).2 (.fits l rt sep old al1 hroom), ⟨hb1, hb1l⟩, rfl,
        fun m hs => ⟨?_, ?_, fun x hx => hch x hx m hs⟩⟩
      · rw [hlen]; exact Nat.le_succ_of_le hs.1
      · rw [hlen]; exact hroom
    · have hfull : cap ≤ b.keys.length := Nat.le_of_not_lt hroom
      obtain ⟨pk, hpk⟩ := exists_getElem? (show cap / 2 < (b.split1 (upperBound b.keys k) l rt sep).keys.length from
        hlen ▸ Nat.lt_succ_of_le (Nat.le_trans (Nat.div_le_self cap 2) hfull))
      obtain ⟨hc, h4, h5, h6, h7⟩ :=
        branch_cut_ins h lo hi (cap / 2) pk (b.id) al1.branch.alloc.1 hb1 hpk (half_pos hcap)
      refine ⟨_, _, (insertUp_eq_some ..).2 (.cut l rt sep old al1 pk hfull hpk),
        ⟨hc.left, hc.right, hc.inB, h4, h7.trans hb1l⟩, rfl, fun m hs => ?_⟩
      -- within occupancy a full `b` holds exactly `cap` keys, the widened node one more; it is cut around key `cap / 2`
      have hn : b.keys.length = cap := Nat.le_antisymm hs.2.1 hfull
      have hhalf : cap / 2 + cap / 2 ≤ cap := Nat.two_mul _ ▸ Nat.mul_div_le cap 2
      obtain ⟨sl, sr⟩ := (branch_split_sizes 0 (Nat.le_refl _) hhalf (congrArg (· + 1) hn)).2 _ _ h5
        (h6.trans (congrArg (· - (cap / 2 + 1)) hlen))
      exact ⟨⟨sl.1, sl.2, fun x hx => hch x (List.mem_of_mem_take hx) m hs⟩,
        ⟨sr.1, sr.2, fun x hx => hch x (List.mem_of_mem_drop hx) m hs⟩⟩

theorem insertRec_correct (cap : Nat) (hcap : 4 ≤ cap) :
    ∀ (h : Nat) (t : Tree K V h) (lo hi : Option Int) (k : K) (v : V) (al : Allocs),
      Ordered h t lo hi → InB lo hi (ord k) →
      ∃ res al', insertRec cap h t k v al = some (res, al') ∧ InsOK h lo hi (toList h t) k v res ∧
        res.old = (SMap.lookup (toList h t) k).map (·.2) ∧
        ∀ m, Sized cap h t m → InsSized cap h m res := by
  intro h
  induction h with
  | zero =>
    intro t lo hi k v al ho hk
    exact insertLeaf_correct cap hcap (t : Leaf K V) lo hi k v al ho hk
  | succ h ih =>
    intro t lo hi k v al ho hk
    obtain ⟨c, r⟩ := ho.route k
    obtain ⟨cres, al1, he, hok, hold, hcs⟩ := ih c _ _ k v al r.child (r.inB hk)
    obtain ⟨res, al', hu, hok', hold', hs'⟩ := insertUp_correct cap hcap v r cres al1 hok hcs
    refine ⟨res, al', ?_, hok', by rw [hold', hold, r.lookup], hs'⟩
    rw [insertRec_succ, r.get]
    simp only [he, Option.bind_some]
    exact hu

theorem insertRec_spec (cap : Nat) (hcap : 4 ≤ cap) :
    ∀ (h : Nat) (t : Tree K V h) (lo hi : Option Int) (k : K) (v : V) (al : Allocs),
      Ordered h t lo hi → InB lo hi (ord k) → LeafSized cap h t →
      ∃ res al', insertRec cap h t k v al = some (res, al') ∧ InsOK h lo hi (toList h t) k v res := by
  intro h t lo hi k v al ho hk _
  obtain ⟨res, al', he, hok, _⟩ := insertRec_correct cap hcap h t lo hi k v al ho hk
  exact ⟨res, al', he, hok⟩

theorem insertRec_sized (cap : Nat) (hcap : 4 ≤ cap) :
    ∀ (h : Nat) (t : Tree K V h) (lo hi : Option Int) (k : K) (v : V) (al : Allocs) (m : Nat),
      Ordered h t lo hi → InB lo hi (ord k) → Sized cap h t m → m ≤ cap / 2 →
      ∀ (res : InsRes K V h) (al' : Allocs), insertRec cap h t k v al = some (res, al') → InsSized cap h m res := by
  intro h t lo hi k v al m ho hk hsz _ res al' he
  obtain ⟨res', al'', he', _, _, hs⟩ := insertRec_correct cap hcap h t lo hi k v al ho hk
  rw [he] at he'
  cases he'
  exact hs m hsz

end BPT.Rust
