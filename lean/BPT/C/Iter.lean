import BPT.C.Top
import BPT.Core.Leaves
/-
  The C iterator (`BPlusTreeIterator_next`): on a valid, unmodified tree it yields
  the remaining entries in key order, one per call, skipping leaves emptied by
  deletions, then reports exhaustion; draining it gives exactly `abs s`.
-/
namespace BPT.C
open BPT Tree
open BPT.Rust (links links_succ links_zero ChainL firstOf link)
open BPT.Py (linkIds)
variable {K V : Type} [Keyed K]

def entriesOf (L : List (Leaf K V)) : List (K × V) := L.flatMap Leaf.entries

section
omit [Keyed K]

theorem skipEmpty_eq {ls : List (Leaf K V)} (hnd : (ls.map (·.id)).Nodup) (hpos : ∀ l ∈ ls, l.id ≠ noneId) :
    ∀ (S : List (Leaf K V)) (fuel : Nat), (∀ l ∈ S, l ∈ ls) → ChainL (S.map link) noneId → S.length + 1 ≤ fuel →
      skipEmpty ls fuel (firstOf (S.map link) noneId) = .ok (S.dropWhile (·.keys.length = 0)).head? := by
  intro S
  induction S with
  | nil =>
    intro fuel _ _ hf
    cases fuel with
    | zero => exact absurd hf (Nat.not_succ_le_zero _)
    | succ f => simp [skipEmpty, firstOf]
  | cons l S ih =>
    intro fuel hsub hch hf
    cases fuel with
    | zero => exact absurd hf (Nat.not_succ_le_zero _)
    | succ f =>
      have hl : l ∈ ls := hsub l List.mem_cons_self
      have hch' : l.next = firstOf (S.map link) noneId ∧ ChainL (S.map link) noneId := hch
      show skipEmpty ls (f+1) l.id = _
      unfold skipEmpty
      have hfind : findLeafById ls l.id = some l := find?_of_nodup (fun (x : Leaf K V) => x.id) ls l hl hnd
      simp only [hpos l hl, if_false, hfind]
      by_cases h0 : l.keys.length = 0
      · rw [if_pos h0, hch'.1, ih f (fun x hx => hsub x (List.mem_cons_of_mem _ hx)) hch'.2 (Nat.le_of_succ_le_succ hf),
          List.dropWhile_cons_of_pos (by simpa using h0)]
      · rw [if_neg h0, List.dropWhile_cons_of_neg (by simpa using h0)]; rfl

end

/-- skipping empty leaves from the head of a suffix `S` of a well-linked leaf list finds its first non-empty leaf -/
theorem skipEmpty_suffix (ls : List (Leaf K V)) (hnd : (ls.map (·.id)).Nodup) (hpos : ∀ l ∈ ls, l.id ≠ noneId) :
    ∀ (S P : List (Leaf K V)) (fuel : Nat), ls = P ++ S → ChainL (S.map link) noneId → S.length + 1 ≤ fuel →
      (∃ E l Q, S = E ++ l :: Q ∧ (∀ e ∈ E, e.keys.length = 0) ∧ l.keys.length ≠ 0 ∧
          skipEmpty ls fuel (firstOf (S.map link) noneId) = .ok (some l)) ∨
      ((∀ e ∈ S, e.keys.length = 0) ∧ skipEmpty ls fuel (firstOf (S.map link) noneId) = .ok none) := by
  intro S P fuel hls hch hf
  rw [skipEmpty_eq hnd hpos S fuel (fun x hx => hls ▸ List.mem_append_right _ hx) hch hf]
  -- `S` is its empty leaves in front, then the rest
  have hsplit := List.takeWhile_append_dropWhile (p := fun (l : Leaf K V) => decide (l.keys.length = 0)) (l := S)
  have hE : ∀ e ∈ S.takeWhile (·.keys.length = 0), e.keys.length = 0 := fun e he => by
    simpa using List.all_eq_true.1 List.all_takeWhile e he
  have hhead := List.head?_dropWhile_not (·.keys.length = 0) S
  cases hd : S.dropWhile (·.keys.length = 0) with
  | nil => rw [hd, List.append_nil] at hsplit; exact Or.inr ⟨hsplit ▸ hE, rfl⟩
  | cons l Q => rw [hd] at hsplit hhead; exact Or.inl ⟨_, l, Q, hsplit.symm, hE, by simpa using hhead, rfl⟩

omit [Keyed K] in
theorem entriesOf_dropWhile (S : List (Leaf K V)) : entriesOf (S.dropWhile (·.keys.length = 0)) = entriesOf S := by
  induction S with
  | nil => rfl
  | cons l S ih =>
    by_cases h0 : l.keys.length = 0
    · rw [List.dropWhile_cons_of_pos (by simpa using h0), ih]
      simp [entriesOf, Leaf.entries, List.eq_nil_of_length_eq_zero h0]
    · rw [List.dropWhile_cons_of_neg (by simpa using h0)]

/-- the iterator is positioned in front of the remaining entries `R` -/
def Pos (s : CState K V) (it : Iter) (R : List (K × V)) : Prop :=
  it.modc = s.modc ∧
  ((it.node = noneId ∧ R = []) ∨
   (∃ P l Q, leaves s.height s.root = P ++ l :: Q ∧ it.node = l.id ∧ it.idx ≤ l.keys.length ∧
      R = (l.keys.zip l.vals).drop it.idx ++ entriesOf Q))

/-- what the iterator's walk needs of a state; it follows from `CInv`, ordering plays no part -/
structure Walk (s : CState K V) : Prop where
  nodup : ((leaves s.height s.root).map (·.id)).Nodup
  pos : ∀ l ∈ leaves s.height s.root, l.id ≠ noneId
  chain : ChainL ((leaves s.height s.root).map link) noneId
  par : ∀ l ∈ leaves s.height s.root, l.keys.length = l.vals.length

theorem walk_of_cinv (s : CState K V) (hi : CInv s) : Walk s := by
  refine ⟨by rw [← Py.linkIds_links]; exact hi.nodup, ?_, hi.chain, leaves_lens s.height s.root none none hi.ord⟩
  intro l hl
  have : l.id ∈ linkIds (links s.height s.root) := by
    rw [Py.linkIds_links]; exact List.mem_map.2 ⟨l, hl, rfl⟩
  have := (hi.fresh l.id this).1
  unfold noneId; omega

/-- what one `next()` yields in front of `R` -/
def outOf (wv : Bool) (R : List (K × V)) : IterOut K V :=
  match R with
  | [] => .stop
  | (k, v) :: _ => if wv then .item k v else .key k

section
omit [Keyed K]

theorem drop_entriesOf_cons (l : Leaf K V) (Q : List (Leaf K V)) (idx : Nat) (hpar : l.keys.length = l.vals.length)
    (hidx : idx ≤ l.keys.length) : (entriesOf (l :: Q)).drop idx = (l.keys.zip l.vals).drop idx ++ entriesOf Q := by
  show ((l.keys.zip l.vals) ++ entriesOf Q).drop idx = _
  rw [List.drop_append_of_le_length (by rw [List.length_zip, ← hpar, Nat.min_self]; exact hidx)]

/-- the first leaf that holds a key is `l`, or `l` is empty and `idx = 0` -/
theorem drop_entriesOf_dropWhile (l : Leaf K V) (Q : List (Leaf K V)) (idx : Nat) (hpar : l.keys.length = l.vals.length)
    (hidx : idx ≤ l.keys.length) :
    (l.keys.zip l.vals).drop idx ++ entriesOf Q = (entriesOf ((l :: Q).dropWhile (·.keys.length = 0))).drop idx ∧
    ∀ l₁ ∈ ((l :: Q).dropWhile (·.keys.length = 0)).head?, idx ≤ l₁.keys.length := by
  by_cases h0 : l.keys.length = 0
  · have hi : idx = 0 := Nat.le_zero.1 (h0 ▸ hidx)
    subst hi
    rw [entriesOf_dropWhile, drop_entriesOf_cons l Q 0 hpar hidx]
    exact ⟨rfl, fun _ _ => Nat.zero_le _⟩
  · rw [List.dropWhile_cons_of_neg (by simpa using h0), drop_entriesOf_cons l Q idx hpar hidx]
    exact ⟨rfl, fun l₁ h => by cases h; exact hidx⟩

/-- the last `match` of `iterNext`, at entry `i` of a leaf of the chain -/
theorem yield_pos (s : CState K V) (hw : Walk s) (it : Iter) (hm : it.modc = s.modc) (Q : List (Leaf K V)) (l : Leaf K V) (i : Nat)
    (hls : (l :: Q) <:+ leaves s.height s.root) (hi : i < l.keys.length) :
    ∃ it', (match l.keys[i]?, l.vals[i]? with
        | some k, some v => Res.ok ({ it with node := l.id, idx := i + 1 }, if it.withValues then IterOut.item k v else .key k)
        | some k, none => if it.withValues then .ub else .ok ({ it with node := l.id, idx := i + 1 }, .key k)
        | none, _ => .ub) = .ok (it', outOf it.withValues ((l.keys.zip l.vals).drop i ++ entriesOf Q)) ∧
      Pos s it' ((l.keys.zip l.vals).drop i ++ entriesOf Q).tail ∧ it'.withValues = it.withValues := by
  have hv : i < l.vals.length := by rw [← hw.par l (hls.subset List.mem_cons_self)]; exact hi
  obtain ⟨P, hP⟩ := hls
  rw [zip_drop_cons hi hv, List.cons_append]
  simp only [List.getElem?_eq_getElem hi, List.getElem?_eq_getElem hv, outOf, List.tail_cons]
  exact ⟨_, rfl, ⟨hm, Or.inr ⟨P, l, Q, hP.symm, rfl, hi, rfl⟩⟩, rfl⟩

end

/-- one step: from a position in front of `R` the iterator yields the head of `R` and moves in front of its tail;
    in front of nothing it reports exhaustion (and stays in front of nothing) -/
theorem iterNext_pos (s : CState K V) (hw : Walk s) (it : Iter) (R : List (K × V)) (hp : Pos s it R) :
    ∃ it', iterNext s it = .ok (it', outOf it.withValues R) ∧ Pos s it' R.tail ∧ it'.withValues = it.withValues := by
  obtain ⟨hm, hpos⟩ := hp
  unfold iterNext
  rw [if_neg (by simp [hm])]
  rcases hpos with ⟨hn, rfl⟩ | ⟨P, l, Q, hsplit, hn, hidx, rfl⟩
  · have : skipEmpty (leaves s.height s.root) ((leaves s.height s.root).length + 1) it.node = .ok none := by
      rw [hn]; simp [skipEmpty]
    simp only [this, Res.bind_ok]
    exact ⟨_, rfl, ⟨hm, Or.inl ⟨rfl, rfl⟩⟩, rfl⟩
  · -- `skipEmpty` from the head of any stretch of the chain
    have skip : ∀ S : List (Leaf K V), S <:+ leaves s.height s.root →
        skipEmpty (leaves s.height s.root) ((leaves s.height s.root).length + 1) (firstOf (S.map link) noneId) =
          .ok (S.dropWhile (·.keys.length = 0)).head? := by
      intro S hS
      have hlen := hS.length_le
      obtain ⟨P', hP'⟩ := hS
      exact skipEmpty_eq hw.nodup hw.pos S _ (fun x hx => hP' ▸ List.mem_append_right _ hx)
        (Rust.chainL_suffix (P := P') (by rw [hP']; exact hw.chain)) (Nat.succ_le_succ hlen)
    have stop : ∃ it', (Res.ok (({ it with node := noneId } : Iter), (IterOut.stop : IterOut K V))) =
        .ok (it', outOf it.withValues ([] : List (K × V))) ∧ Pos s it' ([] : List (K × V)).tail ∧ it'.withValues = it.withValues :=
      ⟨_, rfl, ⟨hm, Or.inl ⟨rfl, rfl⟩⟩, rfl⟩
    have hS : (l :: Q) <:+ leaves s.height s.root := ⟨P, hsplit.symm⟩
    obtain ⟨hR, hidx₁⟩ := drop_entriesOf_dropWhile l Q it.idx (hw.par l (hS.subset List.mem_cons_self)) hidx
    have hS₁ := (List.dropWhile_suffix (fun (l : Leaf K V) => decide (l.keys.length = 0)) (l := l :: Q)).trans hS
    have h1 := skip _ hS
    rw [show firstOf ((l :: Q).map link) noneId = it.node from hn.symm] at h1
    simp only [h1, Res.bind_ok, hR]
    cases hd : (l :: Q).dropWhile (·.keys.length = 0) with
    | nil => rw [show List.drop it.idx (entriesOf ([] : List (Leaf K V))) = [] from List.drop_nil]; exact stop
    | cons l₁ Q₁ =>
      rw [hd] at hS₁ hidx₁
      have hi₁ : it.idx ≤ l₁.keys.length := hidx₁ l₁ rfl
      simp only [List.head?_cons]
      rw [drop_entriesOf_cons l₁ Q₁ it.idx (hw.par l₁ (hS₁.subset List.mem_cons_self)) hi₁]
      by_cases hge : it.idx ≥ l₁.keys.length
      · -- the current leaf is used up: move on to the next one that holds a key
        have hnext : l₁.next = firstOf (Q₁.map link) noneId := by
          obtain ⟨P₁, hP₁⟩ := hS₁
          exact (show _ ∧ _ from Rust.chainL_suffix (P := P₁) (S := l₁ :: Q₁) (by rw [hP₁]; exact hw.chain)).1
        have hS₂ := (List.dropWhile_suffix (fun (l : Leaf K V) => decide (l.keys.length = 0)) (l := Q₁)).trans
          ((List.suffix_cons l₁ Q₁).trans hS₁)
        have hhd₂ := List.head?_dropWhile_not (·.keys.length = 0) Q₁
        rw [if_pos hge, show (l₁.keys.zip l₁.vals).drop it.idx = [] from entries_drop_nil l₁ hge, List.nil_append, hnext,
          skip Q₁ ((List.suffix_cons l₁ Q₁).trans hS₁), ← entriesOf_dropWhile Q₁]
        cases hd₂ : Q₁.dropWhile (·.keys.length = 0) with
        | nil => exact stop
        | cons l₂ Q₂ =>
          rw [hd₂] at hS₂ hhd₂
          have hne₂ : l₂.keys.length ≠ 0 := by simpa using hhd₂
          exact yield_pos s hw it hm Q₂ l₂ 0 hS₂ (Nat.pos_of_ne_zero hne₂)
      · rw [if_neg hge]
        exact yield_pos s hw it hm Q₁ l₁ it.idx hS₁ (Nat.lt_of_not_le hge)

theorem drain_pos (s : CState K V) (hw : Walk s) : ∀ (R : List (K × V)) (it : Iter) (fuel : Nat) (acc : List (IterOut K V)),
    it.withValues = true → Pos s it R → R.length + 1 ≤ fuel →
    drain s fuel it acc = .ok (acc.reverse ++ R.map (fun p => IterOut.item p.1 p.2)) := by
  intro R
  induction R with
  | nil =>
    intro it fuel acc hwv hp hf
    cases fuel with
    | zero => exact absurd hf (Nat.not_succ_le_zero _)
    | succ f =>
      obtain ⟨it', he, _⟩ := iterNext_pos s hw it [] hp
      simp [drain, he, outOf]
  | cons p R ih =>
    intro it fuel acc hwv hp hf
    cases fuel with
    | zero => exact absurd hf (Nat.not_succ_le_zero _)
    | succ f =>
      obtain ⟨k, v⟩ := p
      obtain ⟨it', he, hp', hwv'⟩ := iterNext_pos s hw it ((k, v) :: R) hp
      simp only [drain, he, Res.bind_ok, outOf, hwv, if_true]
      rw [ih it' f (IterOut.item k v :: acc) (by rw [hwv', hwv]) hp' (Nat.le_of_succ_le_succ hf)]
      simp

omit [Keyed K] in
theorem firstLeaf_eq : ∀ (h : Nat) (t : Tree K V h), firstLeaf h t = firstLeafOf h t := by
  intro h t
  fun_induction firstLeaf h t with
  | case1 => rfl
  | case2 h c b hc ih => rw [firstLeafOf, hc]; exact ih
  | case3 h b hc => rw [firstLeafOf, hc]

theorem pos_new (s : CState K V) (hi : CInv s) (wv : Bool) : Pos s (iterNew s wv) (abs s) := by
  cases hl : leaves s.height s.root with
  | nil => exact absurd hl (leaves_ne_nil s.height s.root none none hi.ord)
  | cons l Q =>
    refine ⟨rfl, Or.inr ⟨[], l, Q, hl, ?_, Nat.zero_le _, ?_⟩⟩
    · simp [iterNew, firstLeaf_eq, firstLeafOf_head s.height s.root none none hi.ord, hl]
    · simp only [abs, toList, hl, List.flatMap_cons, iterNew, List.drop_zero]; rfl

/-- `list(t.items())` is exactly the contents in ascending key order -/
theorem items_spec (s : CState K V) (hi : CInv s) : items s = .ok (abs s) := by
  unfold items
  rw [drain_pos s (walk_of_cinv s hi) (abs s) (iterNew s true) _ [] rfl (pos_new s hi true) (by rw [hi.size]; omega)]
  simp only [List.reverse_nil, List.nil_append, Res.map_ok, List.filterMap_map]
  congr 1
  induction (abs s) with
  | nil => rfl
  | cons p m ih => simp [ih]

section
omit [Keyed K]

theorem mem_slotsOf_of_mem_toList : ∀ (h : Nat) (t : Tree K V h) (k : K) (v : V), (k, v) ∈ toList h t →
    Obj.key k ∈ slotsOf h t ∧ Obj.val v ∈ slotsOf h t := by
  intro h
  induction h with
  | zero =>
    intro t k v hm
    rw [toList_zero] at hm
    have hkv := List.of_mem_zip hm
    exact ⟨List.mem_append_left _ (List.mem_map_of_mem hkv.1), List.mem_append_right _ (List.mem_map_of_mem hkv.2)⟩
  | succ h ih =>
    intro t k v hm
    rw [toList_succ] at hm
    obtain ⟨c, hc, hcm⟩ := List.mem_flatMap.1 hm
    obtain ⟨a, b⟩ := ih c k v hcm
    exact ⟨List.mem_append_right _ (List.mem_flatMap.2 ⟨c, hc, a⟩), List.mem_append_right _ (List.mem_flatMap.2 ⟨c, hc, b⟩)⟩

theorem pos_sub_abs (s : CState K V) (it : Iter) (R : List (K × V)) (hp : Pos s it R) : ∀ kv ∈ R, kv ∈ abs s := by
  intro kv hkv
  obtain ⟨_, hpos⟩ := hp
  rcases hpos with ⟨_, rfl⟩ | ⟨P, l, Q, hsplit, _, _, rfl⟩
  · cases hkv
  · unfold abs toList
    rw [hsplit]
    simp only [List.flatMap_append, List.flatMap_cons, List.mem_append]
    rcases List.mem_append.1 hkv with h | h
    · exact Or.inr (Or.inl (List.mem_of_mem_drop h))
    · exact Or.inr (Or.inr h)

end

/-- every object an iterator step takes a reference to is owned by a slot of the tree (no stale object is revived).  The two
    middle conjuncts hold of every outcome by definition: `iterEvs` and `handedOut` have the same body -/
theorem iterNext_refs (s : CState K V) (hw : Walk s) (it : Iter) (R : List (K × V)) (hp : Pos s it R) :
    ∃ it' out, iterNext s it = .ok (it', out) ∧ (iterEvs out).dec = [] ∧ (iterEvs out).inc = handedOut out ∧
      ∀ o ∈ (iterEvs out).inc, o ∈ slots s := by
  obtain ⟨it', he, _, _⟩ := iterNext_pos s hw it R hp
  refine ⟨it', _, he, ?_, ?_, ?_⟩
  · cases outOf it.withValues R <;> rfl
  · cases outOf it.withValues R <;> rfl
  · cases R with
    | nil => intro o ho; cases ho
    | cons kv R' =>
      obtain ⟨k, v⟩ := kv
      obtain ⟨a, b⟩ := mem_slotsOf_of_mem_toList s.height s.root k v (pos_sub_abs s it _ hp (k, v) List.mem_cons_self)
      intro o ho
      have : o = .key k ∨ o = .val v := by
        cases hwv : it.withValues
        · exact Or.inl (by simpa [outOf, hwv, iterEvs] using ho)
        · simpa [outOf, hwv, iterEvs] using ho
      exact this.elim (· ▸ a) (· ▸ b)

end BPT.C
