import BPT.Core.Links
/-
  What an insert of the Python and the C map does to the leaf links, where fresh leaf ids are serial numbers
  (`PLinkIns`), and what a deletion does to them (`PLinkRem`).  The declarations carry the prefix `Py.`; C uses
  `PLinkIns`, the Rust remove path `PLinkRem`.
-/
namespace BPT.Py
open BPT Tree
open BPT.Rust (links links_succ links_zero ChainL firstOf)
variable {K V : Type}

def linkIds (L : List (Nat × Nat)) : List Nat := L.map (·.1)

theorem linkIds_links (h : Nat) (t : Tree K V h) : linkIds (links h t) = (leaves h t).map (·.id) := by
  simp [linkIds, links, Rust.link, List.map_map, Function.comp_def]

/-- what an insert does to the links: nothing, or one link `(i, n)` becomes `(i, nid), (nid, n)`.  `nid` is the next
    unused serial before the call and the id of the new leaf, `nid'` the next unused serial after it. -/
inductive PLinkIns (L L' : List (Nat × Nat)) (nid nid' : Nat) : Prop where
  | same (h1 : L' = L) (h2 : nid' = nid)
  | split (A B : List (Nat × Nat)) (i n : Nat) (h1 : L = A ++ [(i, n)] ++ B)
      (h2 : L' = A ++ [(i, nid), (nid, n)] ++ B) (h3 : nid' = nid + 1)

theorem PLinkIns.ctx {L L' : List (Nat × Nat)} {nid nid' : Nat} (P Q : List (Nat × Nat)) (h : PLinkIns L L' nid nid') :
    PLinkIns (P ++ L ++ Q) (P ++ L' ++ Q) nid nid' := by
  cases h with
  | same h1 h2 => exact .same (by rw [h1]) h2
  | split A B i n h1 h2 h3 =>
    exact .split (P ++ A) (B ++ Q) i n (append_ctx P Q h1) (append_ctx P Q h2) h3

theorem PLinkIns.replace1 {h : Nat} {b : Branch K (Tree K V h)} {i : Nat} {c c' : Tree K V h} {nid nid' : Nat}
    (hc : b.children[i]? = some c) (hl : PLinkIns (links h c) (links h c') nid nid') :
    PLinkIns (links (h+1) b) (links (h+1) (b.replace1 i c')) nid nid' := by
  rw [links_succ, links_succ, Branch.flatMap_replace1, flatMap_split (links h) hc]
  exact hl.ctx _ _

theorem PLinkIns.split1 {h : Nat} {b : Branch K (Tree K V h)} {i : Nat} {c l r : Tree K V h} {sep : K} {nid nid' : Nat}
    (hc : b.children[i]? = some c) (hl : PLinkIns (links h c) (links h l ++ links h r) nid nid') :
    PLinkIns (links (h+1) b) (links (h+1) (b.split1 i l r sep)) nid nid' := by
  rw [links_succ, links_succ, Branch.flatMap_split1 _ _ _ _ _ (lt_of_getElem?_eq_some hc), flatMap_split (links h) hc]
  exact hl.ctx _ _

theorem PLinkIns.cut {h : Nat} {L : List (Nat × Nat)} {b : Branch K (Tree K V h)} {nid nid' : Nat}
    (hl : PLinkIns L (links (h+1) b) nid nid') (m i₁ i₂ : Nat) (k₁ k₂ : List K) :
    PLinkIns L (links (h+1) ({ id := i₁, keys := k₁, children := b.children.take m } : Branch K (Tree K V h)) ++
      links (h+1) ({ id := i₂, keys := k₂, children := b.children.drop m } : Branch K (Tree K V h))) nid nid' := by
  rw [links_succ, links_succ, ← List.flatMap_append, List.take_append_drop, ← links_succ]; exact hl

theorem PLinkIns.chain {L L' : List (Nat × Nat)} {nid nid' : Nat} (h : PLinkIns L L' nid nid') (nxt : Nat) (hc : ChainL L nxt) :
    ChainL L' nxt ∧ firstOf L' nxt = firstOf L nxt := by
  cases h with
  | same h1 _ => subst h1; exact ⟨hc, rfl⟩
  | split A B i n h1 h2 _ => subst h1; subst h2; exact Rust.chainL_split A B i n nid nxt hc

theorem PLinkIns.ids {L L' : List (Nat × Nat)} {nid nid' : Nat} (h : PLinkIns L L' nid nid')
    (hn : (linkIds L).Nodup) (hf : ∀ id ∈ linkIds L, 0 < id ∧ id < nid) :
    (linkIds L').Nodup ∧ (∀ id ∈ linkIds L', 0 < id ∧ id < nid') := by
  cases h with
  | same h1 h2 => subst h1; subst h2; exact ⟨hn, hf⟩
  | split A B i n h1 h2 h3 =>
    subst h1; subst h2; subst h3
    have hnid : 0 < nid := Nat.zero_lt_of_lt (hf i (List.mem_map.2 ⟨(i, n), by simp, rfl⟩)).2
    have hp : (linkIds (A ++ [(i, nid), (nid, n)] ++ B)).Perm (nid :: linkIds (A ++ [(i, n)] ++ B)) := by
      simpa [linkIds] using List.perm_middle (a := nid) (l₁ := A.map (·.1) ++ [i]) (l₂ := B.map (·.1))
    refine ⟨hp.nodup_iff.2 (List.nodup_cons.2 ⟨fun hm => Nat.lt_irrefl _ (hf nid hm).2, hn⟩), fun id hid => ?_⟩
    rcases List.mem_cons.1 (hp.mem_iff.1 hid) with rfl | hid
    · exact ⟨hnid, Nat.lt_succ_self _⟩
    · exact ⟨(hf id hid).1, Nat.lt_succ_of_lt (hf id hid).2⟩

/-- what a deletion does to the links: nothing, or two adjacent links are fused -/
inductive PLinkRem (L L' : List (Nat × Nat)) : Prop where
  | same (h1 : L' = L)
  | merge (A B : List (Nat × Nat)) (ia na ib nb : Nat) (h1 : L = A ++ [(ia, na), (ib, nb)] ++ B)
      (h2 : L' = A ++ [(ia, nb)] ++ B)

theorem PLinkRem.ctx {L L' : List (Nat × Nat)} (P Q : List (Nat × Nat)) (h : PLinkRem L L') :
    PLinkRem (P ++ L ++ Q) (P ++ L' ++ Q) := by
  cases h with
  | same h1 => exact .same (by rw [h1])
  | merge A B ia na ib nb h1 h2 =>
    exact .merge (P ++ A) (B ++ Q) ia na ib nb (append_ctx P Q h1) (append_ctx P Q h2)

theorem PLinkRem.replace1 {h : Nat} {b : Branch K (Tree K V h)} {i : Nat} {c c' : Tree K V h}
    (hc : b.children[i]? = some c) (hl : PLinkRem (links h c) (links h c')) :
    PLinkRem (links (h+1) b) (links (h+1) (b.replace1 i c')) := by
  rw [links_succ, links_succ, Branch.flatMap_replace1, flatMap_split (links h) hc]
  exact hl.ctx _ _

theorem PLinkRem.trans_same {L L' L'' : List (Nat × Nat)} (h : PLinkRem L L') (h2 : L'' = L') : PLinkRem L L'' := by
  subst h2; exact h

theorem PLinkRem.single {p : Nat × Nat} {L' : List (Nat × Nat)} (h : PLinkRem [p] L') : L' = [p] := by
  cases h with
  | same h1 => exact h1
  | merge A B ia na ib nb h1 _ => have := congrArg List.length h1; simp at this; omega

theorem PLinkRem.chain {L L' : List (Nat × Nat)} (h : PLinkRem L L') (nxt : Nat) (hc : ChainL L nxt) :
    ChainL L' nxt ∧ firstOf L' nxt = firstOf L nxt := by
  cases h with
  | same h1 => subst h1; exact ⟨hc, rfl⟩
  | merge A B ia na ib nb h1 h2 => subst h1; subst h2; exact Rust.chainL_merge A B ia na ib nb nxt hc

theorem PLinkRem.ids {L L' : List (Nat × Nat)} (h : PLinkRem L L') :
    (linkIds L').Sublist (linkIds L) := by
  cases h with
  | same h1 => subst h1; exact List.Sublist.refl _
  | merge A B ia na ib nb h1 h2 =>
    subst h1; subst h2
    simp only [linkIds, List.map_append, List.map_cons, List.map_nil]
    refine List.Sublist.append (List.Sublist.append (List.Sublist.refl _) ?_) (List.Sublist.refl _)
    exact List.Sublist.cons_cons _ (List.Sublist.cons _ (List.Sublist.refl _))

end BPT.Py
