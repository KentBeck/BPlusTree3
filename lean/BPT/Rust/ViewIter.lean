import BPT.Rust.Iter
import BPT.Rust.Navigate
/-
  The leaves of a valid state are a stored chain on its arena view, starting where `get_first_leaf_id` answers; so
  `items()` yields the abstraction.
-/
namespace BPT.Rust
open BPT Tree RawMap
variable {K V : Type} [Keyed K]

theorem RawChain.of_chainL (m : RawMap K V) (cap : Nat) : ∀ (L : List (Leaf K V)),
    (∀ l ∈ L, m.getLeaf l.id = some (leafToRaw cap l) ∧ l.keys.length = l.vals.length) →
    ChainL (L.map link) nullId → RawChain m cap L (firstOf (L.map link) nullId) := by
  intro L
  induction L with
  | nil => intro _ _; exact RawChain.nil
  | cons l rest ih =>
    intro hall hch
    have hl := hall l List.mem_cons_self
    have hch' : l.next = firstOf (rest.map link) nullId ∧ ChainL (rest.map link) nullId := hch
    exact RawChain.cons l rest _ hl.1 hl.2 (Arena.get_eq_some hl.1).1 hch'.1
      (ih (fun x hx => hall x (List.mem_cons_of_mem _ hx)) hch'.2)

theorem view_chain (s : RState K V) (hs : SInv s) (hsm : Small s) :
    RawChain (view s) s.cap (Tree.leaves s.height s.root) (firstOf (links s.height s.root) nullId) :=
  RawChain.of_chainL _ _ _ (fun l hl => ⟨(view_embeds s hs hsm).stored l hl,
    leaves_lens s.height s.root none none hs.inv.ord l hl⟩) hs.chain

theorem view_firstLeaf (s : RState K V) (hs : SInv s) (hsm : Small s) :
    (view s).firstLeaf = .ok ((Tree.leaves s.height s.root).head?.map (·.id)) := by
  unfold RawMap.firstLeaf
  rw [view_root, firstLeafFrom_spec (view s) s.cap s.height s.root _ (view_embeds s hs hsm) (fuel_ok s hs),
      firstLeafOf_head s.height s.root none none hs.inv.ord]

theorem view_head (s : RState K V) (hs : SInv s) (hsm : Small s) :
    ∃ l0 rest, Tree.leaves s.height s.root = l0 :: rest ∧ (view s).firstLeaf = .ok (some l0.id) ∧
      RawChain (view s) s.cap (l0 :: rest) l0.id := by
  have hch := view_chain s hs hsm
  have hfirst := view_firstLeaf s hs hsm
  cases hL : Tree.leaves s.height s.root with
  | nil => exact absurd hL (leaves_ne_nil s.height s.root none none hs.inv.ord)
  | cons l0 rest =>
    rw [hL] at hch hfirst
    exact ⟨l0, rest, rfl, hfirst, RawChain.suffix [] l0 rest _ hch⟩

theorem abs_eq_entries (s : RState K V) : abs s = (Tree.leaves s.height s.root).flatMap Leaf.entries := rfl

/-- `items()` on the view of a valid state yields the abstraction, under any `Cfg` (the single guard suffices there) -/
theorem view_items (cfg : Cfg) (s : RState K V) (hs : SInv s) (hsm : Small s) : (view s).items cfg = .ok (abs s) := by
  obtain ⟨l0, rest, hL, hfirst, hch⟩ := view_head s hs hsm
  rw [abs_eq_entries, hL]
  exact items_of_chain cfg (view s) s.cap _ (some l0.id) hfirst hch

end BPT.Rust
