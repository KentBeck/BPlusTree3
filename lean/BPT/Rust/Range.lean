import BPT.Rust.ViewIter
/-
  Range queries on the arena view: where `find_leaf_for_key` positions the
  iterator, what remains from there, and the `RangeIterator` on top.
-/
namespace BPT.Rust
open BPT Tree RawMap
variable {K V : Type} [Keyed K]

/-- what the skip of the first item (`skip_first` with `first_key`) does to the list the inner iterator yields -/
def afterSkip (sk : Bool) (fk : Option K) : List (K × V) → List (K × V)
  | [] => []
  | kv :: T => if sk && skipHit fk kv then T else kv :: T

theorem afterSkip_false (fk : Option K) (T : List (K × V)) : afterSkip false fk T = T := by
  cases T <;> rfl

theorem afterSkip_eq_filter_gt (T : List (K × V)) (k k' : K) (hk : ord k' = ord k) (hs : SMap.Sorted T)
    (hge : ∀ p ∈ T, ord k ≤ ord p.1) : afterSkip true (some k') T = T.filter (fun p => decide (ord k < ord p.1)) := by
  cases T with
  | nil => rfl
  | cons p T' =>
    have hs' := List.pairwise_cons.1 hs
    have hT' : T'.filter (fun q => decide (ord k < ord q.1)) = T' :=
      List.filter_eq_self.2 fun q hq => decide_eq_true (Int.lt_of_le_of_lt (hge p List.mem_cons_self) (hs'.1 q hq))
    simp only [afterSkip, skipHit, Bool.true_and, List.filter_cons, hT', hk]
    by_cases hp : ord p.1 = ord k
    · simp [hp]
    · have hlt : ord k < ord p.1 := Int.lt_iff_le_and_ne.2 ⟨hge p List.mem_cons_self, fun e => hp e.symm⟩
      simp [hp, hlt]

/-- the flag of `find_leaf_for_key_with_match(k)`: is the key under the cursor `k`? if not, no stored key is -/
theorem view_cursor_at_key (s : RState K V) (k : K) (hs : SInv s) (hsm : Small s) :
    ∃ (l : Leaf K V) (after : List (Leaf K V)) (matched : Bool),
      (view s).findLeaf k = .ok (some (l.id, lowerBound l.keys k, matched)) ∧
      RawChain (view s) s.cap (l :: after) l.id ∧
      (abs s).filter (fun p => decide (ord k ≤ ord p.1)) = l.entries.drop (lowerBound l.keys k) ++ after.flatMap Leaf.entries ∧
      if matched then ∃ k', l.keys[lowerBound l.keys k]? = some k' ∧ ord k' = ord k
      else ∀ p ∈ (abs s).filter (fun p => decide (ord k ≤ ord p.1)), ord k < ord p.1 := by
  obtain ⟨before, l, after, hr, hlv, hsorted, _, hfil, ha⟩ := filter_ge_route s.height s.root none none k hs.inv.ord
  change (abs s).filter (fun p => decide (ord k ≤ ord p.1)) = _ at hfil
  have hch := view_chain s hs hsm
  rw [hlv] at hch
  refine ⟨l, after, (match l.keys[lowerBound l.keys k]? with | some k' => decide (ord k' = ord k) | none => false), ?_,
    RawChain.suffix before l after _ hch, hfil, ?_⟩
  · rw [view_findLeaf s k hs hsm, hr]; rfl
  · have above : (∀ k', l.keys[lowerBound l.keys k]? = some k' → ord k' ≠ ord k) →
        ∀ p ∈ (abs s).filter (fun p => decide (ord k ≤ ord p.1)), ord k < ord p.1 := by
      intro hun p hp
      rw [hfil] at hp
      rcases List.mem_append.1 hp with hp | hp
      · exact lowerBound_strict l.keys k hsorted hun p.1 (mem_entries_drop hp)
      · exact ha p hp
    cases hk : l.keys[lowerBound l.keys k]? with
    | none => exact (if_neg (by simp)).mpr (above (by simp [hk]))
    | some k' =>
      by_cases heq : ord k' = ord k
      · exact (if_pos (by simp [heq])).mpr ⟨k', rfl, heq⟩
      · exact (if_neg (by simp [heq])).mpr (above (by intro k'' h; rw [hk] at h; cases h; exact heq))

def loOK (lo : Bound K) (k : K) : Bool :=
  match lo with
  | .included a => decide (ord a ≤ ord k)
  | .excluded a => decide (ord a < ord k)
  | .unbounded => true

def upOK (hi : Bound K) (k : K) : Bool :=
  match hi with
  | .included b => decide (ord k ≤ ord b)
  | .excluded b => decide (ord k < ord b)
  | .unbounded => true

/-- `RangeBounds::contains` -/
def inBounds (lo hi : Bound K) (k : K) : Bool := loOK lo k && upOK hi k

theorem upOK_down (hi : Bound K) (a b : K × V) (hab : ord a.1 < ord b.1) (h : upOK hi b.1 = true) : upOK hi a.1 = true := by
  cases hi with
  | included b => exact decide_eq_true (Int.le_trans (Int.le_of_lt hab) (of_decide_eq_true h))
  | excluded b => exact decide_eq_true (Int.lt_trans hab (of_decide_eq_true h))
  | unbounded => rfl

/-- the bound an iterator's end fields stand for (the borrowed key first, as in `beyondEnd`) -/
def endOf (st : ItState K V) : Bound K :=
  match st.endKey with
  | some e => if st.endIncl then .included e else .excluded e
  | none =>
    match st.endBound with
    | some e => if st.endIncl then .included e else .excluded e
    | none => .unbounded

theorem not_beyondEnd (st : ItState K V) (k : K) : (! beyondEnd Cfg.repaired st k) = upOK (endOf st) k := by
  have gt : ∀ e : K, (! decide (ord k > ord e)) = decide (ord k ≤ ord e) := fun e => by
    by_cases h : ord k ≤ ord e <;> simp [h] <;> omega
  have ge : ∀ e : K, (! decide (ord k ≥ ord e)) = decide (ord k < ord e) := fun e => by
    by_cases h : ord k < ord e <;> simp [h] <;> omega
  unfold beyondEnd endOf
  cases st.endKey with
  | some e => cases st.endIncl <;> simp [Cfg.repaired, upOK, gt, ge]
  | none =>
    cases st.endBound with
    | some e => cases st.endIncl <;> simp [upOK, gt, ge]
    | none => rfl

section
omit [Keyed K]

theorem endOf_withEnd (lf : Option (RLeaf K V)) (idx : Nat) (hi : Bound K) :
    endOf (withEnd ({ leaf := lf, idx := idx } : ItState K V) hi) = hi := by
  cases hi <;> rfl

theorem endOf_itemsFrom (m : RawMap K V) (id idx : Nat) (e : Bound K) : endOf (itemsFrom m id idx e) = e := by
  cases e <;> rfl

theorem withEnd_leaf (it : ItState K V) (hi : Bound K) : (withEnd it hi).leaf = it.leaf := by cases hi <;> rfl
theorem withEnd_idx (it : ItState K V) (hi : Bound K) : (withEnd it hi).idx = it.idx := by cases hi <;> rfl
theorem itemsFrom_leaf (m : RawMap K V) (id idx : Nat) (e : Bound K) : (itemsFrom m id idx e).leaf = m.getLeaf id := by
  cases e <;> rfl
theorem itemsFrom_idx (m : RawMap K V) (id idx : Nat) (e : Bound K) : (itemsFrom m id idx e).idx = idx := by
  cases e <;> rfl

end

theorem takeWhile_beyond_eq_filter {st : ItState K V} {R : List (K × V)} (hs : SMap.Sorted R) :
    R.takeWhile (fun kv => ! beyondEnd Cfg.repaired st kv.1) = R.filter (fun p => upOK (endOf st) p.1) := by
  rw [show (fun (kv : K × V) => ! beyondEnd Cfg.repaired st kv.1) = fun kv => upOK (endOf st) kv.1 from
    funext fun kv => not_beyondEnd st kv.1]
  exact hs.takeWhile_eq_filter (fun a b hab h => upOK_down _ a b hab h)

theorem drain_range_noskip (cfg : Cfg) (m : RawMap K V) (f : Nat) (fk : Option K) :
    ∀ (N : Nat) (it : ItState K V),
      drain (rangeNext cfg m f) N ({ it := some it, skipFirst := false, firstKey := fk } : RangeState K V) =
      drain (itemNext cfg m f) N it := by
  intro N
  induction N with
  | zero => intro it; rfl
  | succ N ih =>
    intro it
    rw [drain_succ, drain_succ, rangeNext_eq, Res.bind_assoc]
    refine Res.bind_congr fun p => ?_
    obtain ⟨o, it'⟩ := p
    cases o with
    | none => rfl
    | some kv => simp only [Bool.false_and, Bool.false_eq_true, if_false, Res.bind_ok, ih]

/-- for whatever list `R` the inner iterator yields: its end bound has cut `R` already, the skip comes after -/
theorem drain_rangeNext {cfg : Cfg} (m : RawMap K V) {f N : Nat} {it : ItState K V} (sk : Bool) (fk : Option K)
    {R : List (K × V)} (h : drain (itemNext cfg m f) N it = .ok R) :
    drain (rangeNext cfg m f) N ({ it := some it, skipFirst := sk, firstKey := fk } : RangeState K V) = .ok (afterSkip sk fk R) := by
  cases sk with
  | false => rw [drain_range_noskip, afterSkip_false, h]
  | true =>
    cases N with
    | zero => cases h
    | succ N =>
      rw [drain_succ] at h
      obtain ⟨⟨o, it'⟩, hp, h⟩ := Res.bind_eq_ok h
      rw [drain_succ, rangeNext_eq, hp, Res.bind_ok]
      cases o with
      | none => cases h; rfl
      | some kv =>
        obtain ⟨R', hR', rfl⟩ := Res.map_eq_ok h
        cases hh : skipHit fk kv with
        | false => simp only [afterSkip, hh, Bool.and_false, Bool.false_eq_true, if_false, Res.bind_ok, drain_range_noskip, hR', Res.map_ok]
        | true =>
          -- the skipped item costs the inner iterator one call more than the range iterator
          simp only [afterSkip, hh, Bool.true_and, if_true, Res.bind_assoc, Res.bind_ok]
          have hmore : drain (itemNext cfg m f) (N+1) it' = .ok R' := drain_mono _ N it' R' hR'
          rw [← hmore, drain_succ]
          refine Res.bind_congr fun q => ?_
          obtain ⟨o2, it''⟩ := q
          cases o2 <;> simp only [drain_range_noskip]

theorem drain_range_chain {m : RawMap K V} {cap : Nat} (l : Leaf K V) (rest : List (Leaf K V)) {x : Nat}
    (hch : RawChain m cap (l :: rest) x) (i : Nat) (hi : Bound K) {sk : Bool} {fk : Option K} (hidx : i ≤ l.keys.length)
    (hs : SMap.Sorted (l.entries.drop i ++ rest.flatMap Leaf.entries)) :
    drain (rangeNext Cfg.repaired m m.fuel) m.itemBound
        ({ it := some (withEnd ({ leaf := m.getLeaf x, idx := i } : ItState K V) hi), skipFirst := sk, firstKey := fk } : RangeState K V) =
      .ok (afterSkip sk fk ((l.entries.drop i ++ rest.flatMap Leaf.entries).filter (fun p => upOK hi p.1))) := by
  obtain ⟨rfl, hget, _⟩ := hch.inv_cons
  have := hch.drain_at Cfg.repaired (withEnd { leaf := m.getLeaf l.id, idx := i } hi) (by rw [withEnd_leaf]; exact hget)
    (by rw [withEnd_idx]; exact hidx)
  rw [withEnd_idx, takeWhile_beyond_eq_filter hs, endOf_withEnd] at this
  exact drain_rangeNext m sk fk this

theorem view_range (s : RState K V) (lo hi : Bound K) (hs : SInv s) (hsm : Small s) :
    (view s).range Cfg.repaired lo hi = .ok ((abs s).filter (fun p => inBounds lo hi p.1)) := by
  have hsorted : SMap.Sorted (abs s) := toList_sorted s.height s.root none none hs.inv.ord
  unfold RawMap.range RawMap.rangeStart
  cases lo with
  | unbounded =>
    obtain ⟨l0, rest, hL, hfirst, hch⟩ := view_head s hs hsm
    have habs : abs s = l0.entries.drop 0 ++ rest.flatMap Leaf.entries := by rw [abs_eq_entries, hL]; rfl
    simp only [hfirst, Res.map_ok, Res.bind_ok, Option.map_some, Bool.false_eq_true, if_false]
    rw [drain_range_chain l0 rest hch 0 hi (Nat.zero_le _) (habs ▸ hsorted), ← habs]
    simp [afterSkip_false, inBounds, loOK]
  | included k =>
    obtain ⟨l, after, matched, hfind, hch, hfil, _⟩ := view_cursor_at_key s k hs hsm
    simp only [hfind, Res.map_ok, Res.bind_ok, Option.map_some, Bool.false_eq_true, if_false]
    rw [drain_range_chain l after hch _ hi (lowerBound_le _ _) (hfil ▸ hsorted.filter _), ← hfil, List.filter_filter]
    simp only [afterSkip_false, inBounds, loOK, Bool.and_comm]
  | excluded k =>
    obtain ⟨l, after, matched, hfind, hch, hfil, hflag⟩ := view_cursor_at_key s k hs hsm
    have hsk : (Cfg.repaired).skipOnlyMatched = true := rfl
    have hge : SMap.Sorted ((abs s).filter (fun p => decide (ord k ≤ ord p.1))) := hsorted.filter _
    simp only [hfind, Res.map_ok, Res.bind_ok, Option.map_some, hsk, if_true]
    rw [drain_range_chain l after hch _ hi (lowerBound_le _ _) (hfil ▸ hge), ← hfil]
    have hgoal : (abs s).filter (fun p => inBounds (.excluded k) hi p.1) =
        (((abs s).filter (fun p => decide (ord k ≤ ord p.1))).filter (fun p => upOK hi p.1)).filter (fun p => decide (ord k < ord p.1)) := by
      rw [List.filter_filter, List.filter_filter]
      apply List.filter_congr
      intro p _
      by_cases h : ord k < ord p.1
      · have : ord k ≤ ord p.1 := Int.le_of_lt h
        simp [inBounds, loOK, h, this]
      · simp [inBounds, loOK, h]
    rw [hgoal]
    refine congrArg Res.ok ?_
    cases matched with
    | true =>
      obtain ⟨k', hk, heq⟩ := hflag
      have hfk : ((view s).getLeaf l.id).bind (fun l' => l'.keys[lowerBound l.keys k]?) = some k' := by
        rw [hch.head_stored]; exact hk
      rw [if_pos rfl, hfk]
      exact afterSkip_eq_filter_gt _ k k' heq (hge.filter _)
        (fun p hp => by simpa using (List.mem_filter.1 (List.mem_filter.1 hp).1).2)
    | false =>
      rw [afterSkip_false]
      exact (List.filter_eq_self.2 fun p hp => by simpa using hflag p (List.mem_filter.1 hp).1).symm

theorem view_itemsFromKey (s : RState K V) (start : K) (e : Bound K) (hs : SInv s) (hsm : Small s) :
    (view s).itemsFromKey Cfg.repaired start e = .ok ((abs s).filter (fun p => inBounds (.included start) e p.1)) := by
  obtain ⟨l, after, matched, hfind, hch, hfil, _⟩ := view_cursor_at_key s start hs hsm
  have hR : SMap.Sorted ((abs s).filter (fun p => decide (ord start ≤ ord p.1))) :=
    (toList_sorted s.height s.root none none hs.inv.ord).filter _
  unfold RawMap.itemsFromKey
  rw [hfind]
  simp only [Res.bind_ok]
  rw [hch.drain_at Cfg.repaired _ ((itemsFrom_leaf ..).trans hch.head_stored) (by rw [itemsFrom_idx]; exact lowerBound_le _ _),
    itemsFrom_idx, ← hfil, takeWhile_beyond_eq_filter hR, endOf_itemsFrom, List.filter_filter]
  refine congrArg Res.ok ?_
  apply List.filter_congr
  intro p _
  simp [inBounds, loOK, Bool.and_comm]

end BPT.Rust
