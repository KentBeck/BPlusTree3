/-
  Outcome of a modelled call: a value, a Rust panic / Python exception that the real code would raise
  at this point, non-termination (the fuel of a walk over the arena is exhausted; `RawMap.fuel` exceeds the number of
  slots, so such a walk has come to a slot twice: `Rust/Chain`), or undefined behaviour.  Import-free.
-/
namespace BPT

inductive Res (α : Type) where
  | ok (a : α)
  | panic
  | diverge
  | ub          -- an unchecked access outside its documented precondition (undefined behaviour)
deriving Repr, DecidableEq

namespace Res
variable {α β : Type}

@[inline] def bind : Res α → (α → Res β) → Res β
  | ok a, f => f a
  | panic, _ => panic
  | diverge, _ => diverge
  | ub, _ => ub

@[inline] def map (f : α → β) : Res α → Res β
  | ok a => ok (f a)
  | panic => panic
  | diverge => diverge
  | ub => ub

def isOk : Res α → Bool
  | ok _ => true
  | _ => false

def ofOption : Option α → Res α
  | some a => ok a
  | none => panic

@[simp] theorem bind_ok (a : α) (f : α → Res β) : (ok a).bind f = f a := rfl
@[simp] theorem bind_panic (f : α → Res β) : (panic : Res α).bind f = panic := rfl
@[simp] theorem bind_diverge (f : α → Res β) : (diverge : Res α).bind f = diverge := rfl
@[simp] theorem bind_ub (f : α → Res β) : (ub : Res α).bind f = ub := rfl
@[simp] theorem map_ok (f : α → β) (a : α) : (ok a).map f = ok (f a) := rfl

theorem bind_assoc {γ : Type} (r : Res α) (f : α → Res β) (g : β → Res γ) :
    (r.bind f).bind g = r.bind fun a => (f a).bind g := by
  cases r <;> rfl

theorem bind_congr {r : Res α} {f g : α → Res β} (h : ∀ a, f a = g a) : r.bind f = r.bind g := by
  rw [funext h]

theorem bind_eq_ok_iff {r : Res α} {g : α → Res β} {b : β} : r.bind g = ok b ↔ ∃ a, r = ok a ∧ g a = ok b := by
  cases r <;> simp [bind]

theorem map_eq_ok_iff {g : α → β} {r : Res α} {b : β} : r.map g = ok b ↔ ∃ a, r = ok a ∧ b = g a := by
  cases r <;> simp [map, eq_comm]

theorem bind_eq_ok {r : Res α} {g : α → Res β} {b : β} (h : r.bind g = ok b) : ∃ a, r = ok a ∧ g a = ok b :=
  bind_eq_ok_iff.1 h

theorem map_eq_ok {g : α → β} {r : Res α} {b : β} (h : r.map g = ok b) : ∃ a, r = ok a ∧ b = g a :=
  map_eq_ok_iff.1 h

/-- an early return `if c { return a }` that was followed by another answer was not taken -/
theorem ite_ok_iff {c : Prop} [Decidable c] {a b : α} {x : Res α} (hab : a ≠ b) :
    (if c then ok a else x) = ok b ↔ ¬ c ∧ x = ok b := by
  by_cases hc : c
  · rw [if_pos hc]; exact ⟨fun h => absurd (ok.inj h) hab, fun h => absurd hc h.1⟩
  · rw [if_neg hc]; exact ⟨fun h => ⟨hc, h⟩, fun h => h.2⟩

end Res
end BPT
