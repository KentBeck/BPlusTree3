import BPT.Rust.RawEq
/-
  No reader of the repaired code can perform an unchecked access outside its
  precondition, on ANY raw map (no invariant assumed): `Res.ub` is unreachable.
-/
namespace BPT.Rust
open BPT RawMap
variable {K V : Type} [Keyed K]

def NoUB {α : Type} (r : Res α) : Prop := r ≠ .ub

theorem NoUB.ok {α : Type} (a : α) : NoUB (.ok a : Res α) := by simp [NoUB]
theorem NoUB.panic {α : Type} : NoUB (.panic : Res α) := by simp [NoUB]
theorem NoUB.diverge {α : Type} : NoUB (.diverge : Res α) := by simp [NoUB]

theorem NoUB.bind {α β : Type} {r : Res α} {f : α → Res β} (hr : NoUB r) (hf : ∀ a, NoUB (f a)) : NoUB (r.bind f) := by
  cases r with
  | ok a => exact hf a
  | panic => exact NoUB.panic
  | diverge => exact NoUB.diverge
  | ub => exact absurd rfl hr

theorem NoUB.map {α β : Type} {r : Res α} {f : α → β} (hr : NoUB r) : NoUB (r.map f) := by
  cases r with
  | ok a => exact NoUB.ok _
  | panic => exact NoUB.panic
  | diverge => exact NoUB.diverge
  | ub => exact absurd rfl hr

theorem NoUB.ite {α : Type} {c : Prop} [Decidable c] {a b : Res α} (ha : NoUB a) (hb : NoUB b) : NoUB (if c then a else b) := by
  split <;> assumption

/-- the early `if c { return a }` -/
theorem NoUB.ret {α : Type} {c : Prop} [Decidable c] {a : α} {x : Res α} (hx : NoUB x) : NoUB (if c then .ok a else x) :=
  NoUB.ite (NoUB.ok a) hx

theorem findLeafFrom_noub (m : RawMap K V) (k : K) (f : Nat) (n : NodeRef) : NoUB (m.findLeafFrom k f n) := by
  -- here and below, the cases of the reader's definition in its order: out of fuel (`diverge`), an answer (`.ok`), the
  -- recursive call; a case that is `.ub`, or hands on the `.ub` of a call, is refuted where it occurs
  fun_induction findLeafFrom m k f n with
  | case1 => exact .diverge
  | case2 | case3 | case4 | case5 => exact .ok _
  | case6 _ _ _ _ _ _ ih => exact ih

theorem firstLeafFrom_noub (m : RawMap K V) (f : Nat) (n : NodeRef) : NoUB (m.firstLeafFrom f n) := by
  fun_induction firstLeafFrom m f n with
  | case1 => exact .diverge
  | case2 | case3 | case4 => exact .ok _
  | case5 _ _ _ _ _ _ _ ih => exact ih

theorem sumRes_noub {α : Type} (F : α → Res Nat) (h : ∀ a, NoUB (F a)) : ∀ (l : List α), NoUB (sumRes (l.map F))
  | [] => NoUB.ok _
  | a :: as => NoUB.bind (h a) (fun _ => NoUB.map (sumRes_noub F h as))

theorem concatRes_noub {α β : Type} (F : α → Res (List β)) (h : ∀ a, NoUB (F a)) : ∀ (l : List α), NoUB (concatRes (l.map F))
  | [] => NoUB.ok _
  | a :: as => NoUB.bind (h a) (fun _ => NoUB.map (concatRes_noub F h as))

/- `lenFrom` and `leafIdsFrom` hand the recursive call to `List.map` unapplied, and Lean derives no induction hypothesis
   for that: their proofs recurse on the fuel themselves -/
theorem lenFrom_noub (m : RawMap K V) : ∀ f n, NoUB (m.lenFrom f n)
  | 0, _ => .diverge
  | _+1, .leaf _ => .ok _
  | f+1, .branch id => by
    unfold lenFrom
    split
    · exact .ok _
    · exact sumRes_noub _ (lenFrom_noub m f) _

theorem leafIdsFrom_noub (m : RawMap K V) : ∀ f n, NoUB (m.leafIdsFrom f n)
  | 0, _ => .diverge
  | _+1, .leaf _ => .ok _
  | f+1, .branch id => by
    unfold leafIdsFrom
    split
    · exact .ok _
    · exact concatRes_noub _ (leafIdsFrom_noub m f) _

theorem countNodesFrom_noub (m : RawMap K V) (f : Nat) (n : NodeRef) : NoUB (m.countNodesFrom f n) := by
  fun_induction countNodesFrom m f n with
  | case1 => exact .diverge
  | case2 | case3 => exact .ok _
  | case4 _ _ _ _ ih =>
    exact .bind (sumRes_noub _ (fun c => .map (ih c)) _) fun _ => .map (sumRes_noub _ (fun c => .map (ih c)) _)

theorem chainIds_noub (m : RawMap K V) (f : Nat) (o : Option Nat) : NoUB (m.chainIds f o) := by
  fun_induction chainIds m f o with
  | case1 => exact .diverge
  | case2 | case3 => exact .ok _
  | case4 _ _ _ _ ih => exact .map ih

theorem itemNext_noub (cfg : Cfg) (hg : cfg.guardBoth = true) (m : RawMap K V) : ∀ f st, NoUB (itemNext cfg m f st) := by
  intro f st
  fun_induction itemNext cfg m f st with
  | case1 => exact .diverge
  | case2 | case3 | case4 | case6 | case7 => exact .ok _
  | case5 _ st l _ guard hguard hno =>
    -- the read `get_key_value_unchecked(idx)` outside one of the arrays: the double guard puts it inside both
    have hb : st.idx < l.keys.length ∧ st.idx < l.vals.length := by simpa [guard, hg] using hguard
    exact (hno _ _ (List.getElem?_eq_getElem hb.1) (List.getElem?_eq_getElem hb.2)).elim
  | case8 _ _ _ _ _ _ _ _ _ ih => exact ih

theorem fastNext_noub (cfg : Cfg) (hg : cfg.fastChecked = true) (m : RawMap K V) : ∀ f st, NoUB (fastNext cfg m f st) := by
  intro f st
  fun_induction fastNext cfg m f st with
  | case1 => exact .diverge
  | case2 | case3 | case4 | case5 | case11 => exact .ok _
  | case6 _ _ _ _ _ _ _ _ ih => exact ih
  -- `get_leaf_unchecked(next)` is reached only without `fastChecked`
  | case7 | case8 | case9 | case10 => exact absurd hg ‹_›

theorem drain_noub {σ α : Type} {next : σ → Res (Option α × σ)} (h : ∀ st, NoUB (next st)) {N : Nat} (st : σ) :
    NoUB (drain next N st) := by
  fun_induction drain next N st with
  | case1 | case5 => exact .diverge
  | case2 => exact .ok _
  | case3 _ _ _ _ _ ih => exact .map ih
  | case4 => exact .panic
  | case6 _ st hub => exact absurd hub (h st)

theorem items_noub (m : RawMap K V) : NoUB (m.items Cfg.repaired) :=
  NoUB.bind (NoUB.map (firstLeafFrom_noub m _ _)) (fun st => drain_noub (itemNext_noub _ rfl m _) st)

theorem first_noub (m : RawMap K V) : NoUB (m.first Cfg.repaired) :=
  .bind (.map (firstLeafFrom_noub m _ _)) fun st => .map (itemNext_noub _ rfl m _ st)

theorem itemsFromKey_noub (m : RawMap K V) (k : K) (e : Bound K) : NoUB (m.itemsFromKey Cfg.repaired k e) :=
  .bind (findLeafFrom_noub m k _ _) fun r => by
    cases r with
    | none => exact .ok _
    | some p => exact drain_noub (itemNext_noub _ rfl m _) _

theorem itemsFast_noub (m : RawMap K V) : NoUB (m.itemsFast Cfg.repaired) := by
  refine .bind (.bind (firstLeafFrom_noub m _ _) fun first => ?_) fun st => drain_noub (fastNext_noub _ rfl m _) st
  -- with `fastChecked` the first leaf comes through the checked lookup as well
  cases first <;> exact .ok _

theorem rangeNext_noub (cfg : Cfg) (hg : cfg.guardBoth = true) (m : RawMap K V) (f : Nat) : ∀ r, NoUB (rangeNext cfg m f r) := by
  rintro ⟨_ | it, sk, fk⟩
  · exact NoUB.ok _
  · rw [rangeNext_eq]
    refine NoUB.bind (itemNext_noub cfg hg m f it) (fun p => ?_)
    split
    · exact NoUB.ok _
    · exact NoUB.ite (NoUB.bind (itemNext_noub cfg hg m f _) (fun _ => NoUB.ok _)) (NoUB.ok _)

theorem range_noub (m : RawMap K V) (lo hi : Bound K) : NoUB (m.range Cfg.repaired lo hi) := by
  refine .bind (.map ?_) fun st => drain_noub (rangeNext_noub _ rfl m _) st
  cases lo with
  | included k => exact .map (findLeafFrom_noub m k _ _)
  | excluded k => exact .map (findLeafFrom_noub m k _ _)
  | unbounded => exact .map (firstLeafFrom_noub m _ _)

theorem get_noub (m : RawMap K V) (k : K) : NoUB (m.get k) := by
  fun_cases RawMap.get m k with
  | case1 | case2 | case3 | case4 => exact .ok _
  | case5 => exact .panic
  | case6 => exact .diverge
  | case7 hub => exact absurd hub (findLeafFrom_noub m k _ _)

/-- C15.  Validators: `checkDetailed_noub`.  The other counting readers and the navigation calls contain no unchecked
    access and are not listed. -/
theorem readers_noub (m : RawMap K V) (lo hi : Bound K) (a b : Option K) (k : K) (e : Bound K) :
    NoUB (m.items Cfg.repaired) ∧ NoUB (m.itemsFast Cfg.repaired) ∧ NoUB (m.keys Cfg.repaired) ∧
    NoUB (m.values Cfg.repaired) ∧ NoUB (m.first Cfg.repaired) ∧ NoUB (m.last Cfg.repaired) ∧
    NoUB (m.range Cfg.repaired lo hi) ∧ NoUB (m.itemsRange Cfg.repaired a b) ∧ NoUB (m.itemsFromKey Cfg.repaired k e) ∧
    NoUB (m.get k) ∧ NoUB m.len :=
  ⟨items_noub m, itemsFast_noub m, .map (items_noub m), .map (items_noub m), first_noub m, .map (items_noub m),
    range_noub m lo hi, range_noub m _ _, itemsFromKey_noub m k e, get_noub m k, lenFrom_noub m _ _⟩

theorem next_noub (m : RawMap K V) (f : Nat) (st : ItState K V) (r : RangeState K V) (fs : FastState K V) :
    NoUB (itemNext Cfg.repaired m f st) ∧ NoUB (rangeNext Cfg.repaired m f r) ∧ NoUB (fastNext Cfg.repaired m f fs) :=
  ⟨itemNext_noub _ rfl m f st, rangeNext_noub _ rfl m f r, fastNext_noub _ rfl m f fs⟩

theorem allRes_noub {α : Type} (p : α → Res Bool) : ∀ (l : List α), (∀ a ∈ l, NoUB (p a)) → NoUB (allRes p l)
  | [], _ => NoUB.ok _
  | a :: as, h => NoUB.bind (h a List.mem_cons_self) (fun b => by
      cases b
      · exact NoUB.ok _
      · exact allRes_noub p as (fun x hx => h x (List.mem_cons_of_mem _ hx)))

theorem checkNode_noub (cfg : Cfg) (m : RawMap K V) (f : Nat) (n : NodeRef) (lo hi : Option K) (r : Bool) :
    NoUB (m.checkNode cfg f n lo hi r) := by
  fun_induction checkNode cfg m f n lo hi r with
  | case1 => exact .diverge
  | case16 _ _ _ _ _ _ _ _ _ _ _ _ ih => exact allRes_noub _ _ fun p _ => ih p
  -- a slot that is not there, the early `return false`s, the leaf's `true`
  | _ => exact .ok _

theorem checkDetailed_noub (m : RawMap K V) : NoUB (m.checkInvariants Cfg.repaired) ∧ NoUB (m.checkDetailed Cfg.repaired) := by
  have h1 : NoUB (m.checkInvariants Cfg.repaired) := checkNode_noub _ m _ _ _ _ _
  refine ⟨h1, ?_⟩
  unfold RawMap.checkDetailed
  apply NoUB.bind h1; intro ok
  apply NoUB.ret
  apply NoUB.bind (NoUB.map (items_noub m)); intro ks
  apply NoUB.ret
  apply NoUB.bind (lenFrom_noub m _ _); intro n
  apply NoUB.ret
  apply NoUB.bind
  · unfold RawMap.countNodes
    split
    · exact NoUB.ok _
    · exact countNodesFrom_noub m _ _
  intro cnt
  apply NoUB.ret
  apply NoUB.ret
  apply NoUB.bind (leafIdsFrom_noub m _ _); intro tids
  apply NoUB.bind (firstLeafFrom_noub m _ _); intro first
  apply NoUB.bind (chainIds_noub m _ _); intro cids
  exact .ret (NoUB.ok _)

/-- P1, `get_key_value_unchecked(i)` in `ItemIterator` guarded by `i < keys_len()` alone: a leaf with a key but no value
    (`get_leaf_mut(id).push_key(k)`), then `items()` -/
def p1Witness : RawMap Int Nat :=
  { cap := 4, root := .leaf 0,
    leaves := { storage := [{ cap := 4, keys := [7], vals := [], next := nullId }], mask := [true], free := [] },
    branches := Arena.empty }

theorem Legacy.p1_unsafe_on_raw : p1Witness.items { guardBoth := false } = .ub ∧ p1Witness.items Cfg.repaired = .ok [] := by decide +kernel

/-- P3, `get_leaf_unchecked(leaf.next)` in `FastItemIterator` guarded by `next != NULL_NODE` alone: `set_leaf_next(id, 12345)`,
    then `items_fast()` follows the id.  (P2 is the same call on the first leaf id in `FastItemIterator::new`; no witness here.) -/
def p3Witness : RawMap Int Nat :=
  { cap := 4, root := .leaf 0,
    leaves := { storage := [{ cap := 4, keys := [7], vals := [70], next := 12345 }], mask := [true], free := [] },
    branches := Arena.empty }

theorem Legacy.p3_unsafe_on_raw :
    p3Witness.itemsFast { fastChecked := false } = .ub ∧ p3Witness.itemsFast Cfg.repaired = .ok [(7, 70)] := by decide +kernel

end BPT.Rust
