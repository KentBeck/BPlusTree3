import BPT.Py.Model
import BPT.Core.LinkIns
/-
  The invariants of the pure-Python tree: occupancy (`PSized`) and, for a map state, `PInv`, with what the
  descents and the readers take from them.
-/
namespace BPT.Py
open BPT Tree
open BPT.Rust (links links_succ links_zero ChainL firstOf)
variable {K V : Type} [Keyed K]

/-- `PSized cap h t m`: leaves hold at most `cap` keys, branches at most `cap - 1`
    (a branch splits as soon as it reaches `cap`), every node below `t` holds at
    least `(cap-1)/2` keys and `t` itself at least `m`. -/
def PSized (cap : Nat) : (h : Nat) → Tree K V h → Nat → Prop
  | 0, (l : Leaf K V), m => m ≤ l.keys.length ∧ l.keys.length ≤ cap
  | h+1, (b : Branch K (Tree K V h)), m =>
      m ≤ b.keys.length ∧ b.keys.length + 1 ≤ cap ∧ ∀ c ∈ b.children, PSized cap h c (minKeys cap)

section
omit [Keyed K]

theorem PSized.nkeys (cap : Nat) (h : Nat) (t : Tree K V h) (m : Nat) (hs : PSized cap h t m) : m ≤ BPT.nkeys h t ∧ BPT.nkeys h t ≤ cap := by
  cases h with
  | zero => exact hs
  | succ h => exact ⟨hs.1, Nat.le_of_succ_le hs.2.1⟩

theorem PSized.raise {cap : Nat} {h : Nat} {t : Tree K V h} {m m' : Nat} (hs : PSized cap h t m) (hm : m' ≤ BPT.nkeys h t) : PSized cap h t m' := by
  cases h with
  | zero => exact ⟨hm, hs.2⟩
  | succ h => exact ⟨hm, hs.2⟩

theorem PSized.mono {cap : Nat} {h : Nat} {t : Tree K V h} {m m' : Nat} (hm : m' ≤ m) (hs : PSized cap h t m) : PSized cap h t m' :=
  hs.raise (Nat.le_trans hm (PSized.nkeys cap h t m hs).1)

theorem PSized.children {cap h m : Nat} {b : Branch K (Tree K V h)} (hb : PSized cap (h+1) (b : Tree K V (h+1)) m) :
    ∀ c ∈ b.children, PSized cap h c (minKeys cap) := hb.2.2

theorem PSized.replace1 {cap h m : Nat} {b : Branch K (Tree K V h)} (hb : PSized cap (h+1) (b : Tree K V (h+1)) m) (i : Nat)
    {c' : Tree K V h} (hc' : PSized cap h c' (minKeys cap)) : PSized cap (h+1) (b.replace1 i c' : Tree K V (h+1)) m :=
  ⟨hb.1, hb.2.1, fun x hx => (Branch.mem_replace1 b i c' x hx).elim (fun e => e ▸ hc') (hb.children x)⟩

theorem PSized.leaf_min {cap : Nat} : ∀ {h : Nat} {t : Tree K V h} {m : Nat}, PSized cap h t m → m ≤ minKeys cap →
    ∀ l ∈ leaves h t, m ≤ l.keys.length := by
  intro h
  induction h with
  | zero =>
    intro t m hs _ l hl
    rw [List.mem_singleton.1 hl]; exact hs.1
  | succ h ih =>
    intro t m hs hm l hl
    obtain ⟨c, hc, hl⟩ := List.mem_flatMap.1 hl
    exact Nat.le_trans hm (ih (hs.children c hc) (Nat.le_refl _) l hl)

/-- the defensive check of `find_child_index` -/
theorem arity_guard {α : Type} {b : Branch K α} (h : b.children.length = b.keys.length + 1) :
    ¬ (b.children.length = 0 ∨ b.keys.length + 1 ≠ b.children.length) := by omega

end

def abs (s : PState K V) : List (K × V) := toList s.height s.root

/-- minimum number of keys the root node must hold -/
def rootMin (h : Nat) : Nat := if h = 0 then 0 else 1

/-- C09's invariants (plus the id bookkeeping that makes the chain walk well defined) -/
structure PInv (s : PState K V) : Prop where
  cap4 : 4 ≤ s.cap
  ord : Ordered s.height s.root none none
  sz : PSized s.cap s.height s.root (rootMin s.height)
  chain : ChainL (links s.height s.root) noneId
  head : s.head = firstOf (links s.height s.root) noneId
  nodup : (linkIds (links s.height s.root)).Nodup
  fresh : ∀ id ∈ linkIds (links s.height s.root), 0 < id ∧ id < s.nextId

theorem PInv.leaves_cons {s : PState K V} (hi : PInv s) : ∃ l R, leaves s.height s.root = l :: R ∧ s.head = l.id := by
  have hh := hi.head
  unfold links at hh
  cases hl : leaves s.height s.root with
  | nil => exact absurd hl (leaves_ne_nil s.height s.root none none hi.ord)
  | cons l R => rw [hl] at hh; exact ⟨l, R, rfl, hh⟩

theorem PInv.ids_nodup {s : PState K V} (hi : PInv s) : ((leaves s.height s.root).map (·.id)).Nodup := by
  rw [← linkIds_links]; exact hi.nodup

theorem PInv.id_bounds {s : PState K V} (hi : PInv s) : ∀ l ∈ leaves s.height s.root, l.id ≠ noneId ∧ l.id < s.nextId := by
  intro l hl
  have := hi.fresh l.id (by rw [linkIds_links]; exact List.mem_map.2 ⟨l, hl, rfl⟩)
  exact ⟨Nat.ne_of_gt this.1, this.2⟩

theorem PInv.nextId_pos {s : PState K V} (hi : PInv s) : 0 < s.nextId := by
  obtain ⟨l, R, hl, _⟩ := hi.leaves_cons
  exact Nat.zero_lt_of_lt (hi.id_bounds l (by rw [hl]; exact List.mem_cons_self)).2

theorem minKeys_bounds (cap : Nat) (hcap : 4 ≤ cap) : 1 ≤ minKeys cap ∧ 2 * minKeys cap + 1 ≤ cap := by unfold minKeys; omega

/-- the minimum against the split point `cap / 2` of leaves and branches -/
theorem minKeys_half (cap : Nat) (hcap : 4 ≤ cap) : minKeys cap ≤ cap / 2 ∧ cap / 2 + minKeys cap + 1 ≤ cap := by
  unfold minKeys; omega

theorem rootMin_le (cap h : Nat) (hcap : 4 ≤ cap) : rootMin h ≤ minKeys cap :=
  Nat.le_trans (by unfold rootMin; split <;> decide) (minKeys_bounds cap hcap).1

/-- The links come in as an equation: for a grown or collapsed root the fields name `links s'.height s'.root` under a
    dependent height, and each would need its own `show … ; rw`. -/
theorem PInv.of_links {s : PState K V} {L : List (Nat × Nat)} (hL : links s.height s.root = L) (cap4 : 4 ≤ s.cap)
    (ord : Ordered s.height s.root none none) (sz : PSized s.cap s.height s.root (rootMin s.height))
    (chain : ChainL L noneId) (head : s.head = firstOf L noneId) (nodup : (linkIds L).Nodup)
    (fresh : ∀ id ∈ linkIds L, 0 < id ∧ id < s.nextId) : PInv s := by
  subst hL; exact ⟨cap4, ord, sz, chain, head, nodup, fresh⟩

end BPT.Py
