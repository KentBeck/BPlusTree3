import BPT.Rust.SInv
import BPT.Rust.Raw
/-
  The raw arena view of a state satisfying the structural invariant contains the typed tree: every node is found in
  its slot (`Embeds`).  Reader proofs are then descents through the typed tree (`Embeds.descend`), for any raw map that
  embeds it.
-/
namespace BPT.Rust
open BPT Tree
variable {K V : Type} [Keyed K]

/-- reference to the root node of a subtree, as the parent branch stores it -/
def ref (h : Nat) (t : Tree K V h) : NodeRef := if h = 0 then .leaf (rootId h t) else .branch (rootId h t)

def rawOfBranch (cap h : Nat) (b : Branch K (Tree K V h)) : RBranch K :=
  { cap := cap, keys := b.keys, children := b.children.map (ref h) }

/-- the raw map `m` stores every node of `t` in the slot named by its id.  `cap` is what each stored node's own capacity
    field holds; `m.cap` is another field, and only the validators, which read both, ask for `m.cap = cap` -/
def Embeds (m : RawMap K V) (cap : Nat) : (h : Nat) → Tree K V h → Prop
  | 0, (l : Leaf K V) => m.getLeaf l.id = some (leafToRaw cap l)
  | h+1, (b : Branch K (Tree K V h)) =>
      m.getBranch b.id = some (rawOfBranch cap h b) ∧ ∀ c ∈ b.children, Embeds m cap h c

theorem ref_zero (l : Leaf K V) : ref 0 (l : Tree K V 0) = .leaf l.id := rfl
theorem ref_succ (h : Nat) (b : Branch K (Tree K V h)) : ref (h+1) (b : Tree K V (h+1)) = .branch b.id := rfl

/-- a descent on fuel above the height of an embedded tree: at every level the node is found in its slot and fuel is left
    for the children -/
theorem Embeds.descend {m : RawMap K V} {cap : Nat} {motive : (h : Nat) → Tree K V h → Nat → Prop}
    (leaf : ∀ (l : Leaf K V) (f : Nat), m.getLeaf l.id = some (leafToRaw cap l) → motive 0 l (f+1))
    (branch : ∀ (h : Nat) (b : Branch K (Tree K V h)) (f : Nat), m.getBranch b.id = some (rawOfBranch cap h b) →
      (∀ c ∈ b.children, motive h c f) → motive (h+1) b (f+1)) :
    ∀ (h : Nat) (t : Tree K V h) (f : Nat), Embeds m cap h t → h < f → motive h t f := by
  intro h
  induction h with
  | zero =>
    intro t f he hf
    cases f with
    | zero => cases hf
    | succ f => exact leaf t f he
  | succ h ih =>
    intro t f he hf
    cases f with
    | zero => cases hf
    | succ f => exact branch h t f he.1 fun c hc => ih c f (he.2 c hc) (Nat.lt_of_succ_lt_succ hf)

theorem Embeds.stored {m : RawMap K V} {cap : Nat} : ∀ {h : Nat} {t : Tree K V h}, Embeds m cap h t →
    ∀ l ∈ leaves h t, m.getLeaf l.id = some (leafToRaw cap l) := by
  intro h
  induction h with
  | zero => intro t he l hl; exact List.mem_singleton.1 hl ▸ he
  | succ h ih => intro t he l hl; obtain ⟨c, hcm, hl⟩ := List.mem_flatMap.1 hl; exact ih (he.2 c hcm) l hl

theorem Embeds.stored_leaves {m : RawMap K V} {cap h : Nat} {t : Tree K V h} (he : Embeds m cap h t) :
    ((Tree.leaves h t).map (·.id)).filterMap m.getLeaf = (Tree.leaves h t).map (leafToRaw cap) := by
  rw [List.filterMap_map, ← List.filterMap_eq_map]
  have := he.stored
  generalize Tree.leaves h t = L at this
  induction L with
  | nil => rfl
  | cons l L ih =>
    rw [List.forall_mem_cons] at this
    simp only [List.filterMap_cons, Function.comp, this.1, ih this.2]

theorem bids_eq_branches : ∀ (h : Nat) (t : Tree K V h), bids h t = (branches h t).map (·.id) := by
  intro h
  induction h with
  | zero => intro t; rfl
  | succ h ih =>
    intro t
    rw [bids_succ]
    simp only [branches, List.map_cons, List.map_flatMap]
    exact congrArg _ (flatMap_congr fun c _ => ih c)

theorem branchToRaw_record (cap h : Nat) (b : Branch K (Tree K V h)) :
    branchToRaw cap { id := b.id, keys := b.keys, childIds := b.children.map (rootId h), childrenAreLeaves := decide (h = 0) } =
      rawOfBranch cap h b := by
  simp only [branchToRaw, rawOfBranch, List.map_map]
  congr 1
  apply List.map_congr_left
  intro c _
  by_cases h0 : h = 0 <;> simp [h0, ref]

theorem Embeds.of_lookup (m : RawMap K V) (cap : Nat) : ∀ (h : Nat) (t : Tree K V h),
    (∀ l ∈ leaves h t, m.getLeaf l.id = some (leafToRaw cap l)) →
    (∀ br ∈ branches h t, m.getBranch br.id = some (branchToRaw cap br)) → Embeds m cap h t := by
  intro h
  induction h with
  | zero => intro t hl _; exact hl t (by simp [leaves])
  | succ h ih =>
    intro t hl hb
    exact ⟨branchToRaw_record cap h t ▸ hb _ List.mem_cons_self, fun c hc => ih c
      (fun l hl' => hl l (List.mem_flatMap.2 ⟨c, hc, hl'⟩))
      (fun br hbr => hb br (List.mem_cons_of_mem _ (List.mem_flatMap.2 ⟨c, hc, hbr⟩)))⟩

/-- the layout `viewLeaves` and `viewBranches` share -/
def viewArena {α β : Type} (f : α → Nat) (g : Option α → β) (ls : List α) (a : Alloc) : Arena β :=
  { storage := (List.range a.len).map (fun i => g (ls.find? (fun l => f l == i))),
    mask := (List.range a.len).map (fun i => (ls.find? (fun l => f l == i)).isSome),
    free := a.free }

omit [Keyed K] in
theorem viewLeaves_eq (cap : Nat) (ls : List (Leaf K V)) (a : Alloc) :
    viewLeaves cap ls a = viewArena (fun l => l.id) (fun o => match o with | some l => leafToRaw cap l | none => dfltLeaf) ls a := rfl

omit [Keyed K] in
theorem viewBranches_eq (cap : Nat) (bs : List (BranchRec K)) (a : Alloc) :
    viewBranches cap bs a = viewArena (fun b => b.id) (fun o => match o with | some b => branchToRaw cap b | none => dfltBranch) bs a := rfl

theorem viewArena_get {α β : Type} (f : α → Nat) (g : Option α → β) (ls : List α) (a : Alloc) (i : Nat) :
    (viewArena f g ls a).get i =
      if i = nullId ∨ a.len ≤ i then none else (ls.find? (fun l => f l == i)).map (fun x => g (some x)) := by
  unfold viewArena Arena.get Arena.maskAt
  by_cases hn : i = nullId
  · simp [hn]
  · by_cases hl : i < a.len
    · have : ¬ a.len ≤ i := Nat.not_le.2 hl
      simp only [hn, if_false, List.length_map, List.length_range, hl, true_and, false_or, this,
        List.getElem?_map, List.getElem?_range hl, Option.map_some, Option.getD_some]
      cases ls.find? (fun l => f l == i) <;> rfl
    · have : a.len ≤ i := Nat.le_of_not_lt hl
      simp [hn, hl, this]

theorem viewArena_get_of_mem {α β : Type} {f : α → Nat} {g : Option α → β} {ls : List α} {a : Alloc} (x : α) (hx : x ∈ ls)
    (hnd : (ls.map f).Nodup) (hlt : f x < a.len) (hsmall : a.len ≤ nullId) :
    (viewArena f g ls a).get (f x) = some (g (some x)) := by
  rw [viewArena_get, if_neg (by omega), find?_of_nodup f ls x hx hnd]
  rfl

/-- arenas small enough for `u32` handles (the tree-level theorems assume it; C16 treats the limit itself) -/
def Small (s : RState K V) : Prop := s.al.leaf.len ≤ nullId ∧ s.al.branch.len ≤ nullId

theorem SInv.nodeIds {s : RState K V} (hs : SInv s) :
    IdsOK ((leaves s.height s.root).map (·.id)) s.al.leaf ∧ IdsOK ((branches s.height s.root).map (·.id)) s.al.branch :=
  ⟨hs.leaves_idsOK, bids_eq_branches s.height s.root ▸ hs.branchIds⟩

theorem view_embeds (s : RState K V) (hs : SInv s) (hsm : Small s) : Embeds (view s) s.cap s.height s.root := by
  obtain ⟨fl, fb⟩ := hs.nodeIds
  apply Embeds.of_lookup
  · intro l hl
    show (viewLeaves _ _ _).get l.id = _
    rw [viewLeaves_eq]
    exact viewArena_get_of_mem l hl fl.nodup_ids (fl.lt (List.mem_append_left _ (List.mem_map_of_mem hl))) hsm.1
  · intro br hbr
    show (viewBranches _ _ _).get br.id = _
    rw [viewBranches_eq]
    exact viewArena_get_of_mem br hbr fb.nodup_ids (fb.lt (List.mem_append_left _ (List.mem_map_of_mem hbr))) hsm.2

theorem view_root (s : RState K V) : (view s).root = ref s.height s.root := rfl
theorem view_leaves_storage_length (s : RState K V) : (view s).leaves.storage.length = s.al.leaf.len := by
  simp [view, viewLeaves]
theorem view_branches_storage_length (s : RState K V) : (view s).branches.storage.length = s.al.branch.len := by
  simp [view, viewBranches]
theorem view_cap (s : RState K V) : (view s).cap = s.cap := rfl

omit [Keyed K] in
/-- Every `LeafNode` / `BranchNode` of the crate carries its own `capacity`; the typed model has one per map, and its view
    gives every stored node that one.  The structural dump of the correspondence run prints each node's own field. -/
theorem view_getLeaf_cap (s : RState K V) (id : Nat) (l : RLeaf K V) (h : (view s).getLeaf id = some l) :
    l.cap = (view s).cap := by
  change (viewLeaves s.cap (leaves s.height s.root) s.al.leaf).get id = some l at h
  rw [viewLeaves_eq, viewArena_get] at h
  split at h
  · cases h
  · obtain ⟨l', _, rfl⟩ := Option.map_eq_some_iff.1 h
    rfl

end BPT.Rust
