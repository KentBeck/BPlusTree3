import BPT.Generated.Source
import BPT.C.Model
/-
  Tie lemmas for the C extension model: what tools/extract_c.py regenerated from
  python/bplustree_c_src equals what BPT/C/Model.lean assumes (the search functions of the last three lemmas are
  modelled in BPT/C/Search.lean, which this file does not import).  An added or removed
  Py_INCREF / Py_DECREF, a changed split point, capacity guard or stamp increment,
  or a different first test in the iterator breaks an obligation here.
-/
namespace BPT.TieC
open BPT BPT.Generated

theorem c_min_capacity : c_MIN_CAPACITY = C.minCapacity := rfl
theorem c_default_capacity : c_DEFAULT_CAPACITY = C.defaultCapacity := rfl
theorem c_header_bits : c_capacity_bits = C.capacityBits ∧ c_num_keys_bits = C.capacityBits := ⟨rfl, rfl⟩
theorem c_ctor_rejects_eq (c : Nat) :
    c_ctor_rejects c = decide (c < C.minCapacity ∨ c ≥ 2 ^ C.capacityBits) :=
  -- the source's `capacity > UINT16_MAX` is `c ≥ 2 ^ 16` by unfolding `>`, `≥` and `Nat.lt`
  decide_eq_decide.2 (or_congr Iff.rfl (show c > 65535 ↔ c ≥ 65536 from Iff.rfl))
theorem c_leaf_split_mid_eq (cap : Nat) : c_leaf_split_mid cap = cap / 2 := rfl
theorem c_branch_split_mid_eq (cap : Nat) : c_branch_split_mid cap = cap / 2 := rfl
theorem c_leaf_is_full_eq (cap n : Nat) : c_leaf_is_full cap n = decide (n ≥ cap) := rfl
theorem c_branch_is_full_eq (cap n : Nat) : c_branch_is_full cap n = decide (n ≥ cap) := rfl
theorem c_leaf_split_counts_eq : c_leaf_split_counts = "total_items - mid ; node->capacity + 1" := rfl
theorem c_branch_split_counts_eq : c_branch_split_counts = "node->capacity - mid" := rfl

/-- the reference-count operations of the repaired code are exactly the events the model emits:
    update: +value −old; split: +key +value +separator copy; plain insert: +key +value;
    branch insert: none (ownership moves); delete: −key −value; get: +value; contains: +value −value;
    iterator: +key (+value); destroy / GC clear: − every slot.  Two sites have no event in the model:
    `tree_insert`'s `Py_XDECREF(split_key)` is on the path where allocating the new root fails (not modelled), and the third
    `Py_XDECREF` of `node_clear_slot` is its branch arm (`node_delete`, its only caller, returns early on a branch) -/
theorem c_refcount_sites_eq :
    c_refcount_sites =
      ["node_insert_leaf: Py_INCREF(value), Py_DECREF(old_value), Py_INCREF(key), Py_INCREF(value), Py_INCREF(*split_key), Py_INCREF(key), Py_INCREF(value)",
       "node_insert_branch: -",
       "node_delete: -",
       "node_clear_slot: Py_XDECREF(node_get_key(node,i)), Py_XDECREF(node_get_value(node,i)), Py_XDECREF(node_get_key(node,i))",
       "node_get: Py_INCREF(value)",
       "node_destroy: Py_XDECREF(node_get_key(node,i)), Py_XDECREF(node_get_value(node,i))",
       "tree_insert: Py_XDECREF(split_key)",
       "tree_insert_recursive: -",
       "BPlusTree_contains: Py_DECREF(value)",
       "BPlusTreeIterator_next: Py_INCREF(key), Py_INCREF(value), Py_INCREF(key)",
       "node_gc_op: Py_CLEAR(node->data[i]), Py_CLEAR(node->data[node->capacity+i])",
       "BPlusTree_dealloc: -"] := rfl

/-- increment sites of the stamp per function: `tree_insert` has one on the update path and one on the insert path, a delete
    passes `tree_delete` and `BPlusTree_delitem` (model: `modc + 1`, `modc + 2`) -/
theorem c_stamp_increments_eq :
    c_stamp_increments = ["tree_insert: 2", "tree_delete: 1", "BPlusTree_delitem: 1", "BPlusTree_setitem: 0"] := rfl

theorem c_iter_fail_fast_eq :
    c_iter_first_test = "self->modification_count != self->tree->modification_count" ∧ c_iter_first_raises = "PyExc_RuntimeError" := ⟨rfl, rfl⟩

theorem c_routing_eq : c_route_steps_right_on_equal = true ∧ c_insert_route_steps_right_on_equal = true := ⟨rfl, rfl⟩

/-- D10 (CPython's allocator protocol, not expressible in the model): the subclassable type allocates and frees through
    the type's slots.  The hypothesis is not used; it says why the conclusion matters -/
theorem c_alloc_via_type_slots_eq : c_type_is_basetype = true → c_alloc_via_type_slots = true := fun _ => rfl


/-- model: `C.iterNext` (+ `C.iterEvs` for the two Py_INCREF sites) -/
theorem c_iter_next_src_eq : c_iter_next_src =
    "if (self->modification_count != self->tree->modification_count) { PyErr_SetString(PyExc_RuntimeError, 'tree changed size during iteration'); return NULL; } if (!self->current_node) { PyErr_SetNone(PyExc_StopIteration); return NULL; } while (self->current_node && self->current_node->num_keys == 0) { self->current_node = self->current_node->next; } if (!self->current_node) { PyErr_SetNone(PyExc_StopIteration); return NULL; } if (self->current_index >= self->current_node->num_keys) { self->current_node = self->current_node->next; while (self->current_node && self->current_node->num_keys == 0) { self->current_node = self->current_node->next; } if (!self->current_node) { PyErr_SetNone(PyExc_StopIteration); return NULL; } self->current_index = 0; } PyObject *key = node_get_key(self->current_node, self->current_index); if (self->include_values) { PyObject *value = node_get_value(self->current_node, self->current_index); PyObject *tuple = PyTuple_New(2); if (!tuple) return NULL; Py_INCREF(key); Py_INCREF(value); PyTuple_SET_ITEM(tuple, 0, key); PyTuple_SET_ITEM(tuple, 1, value); self->current_index++; return tuple; } else { self->current_index++; Py_INCREF(key); return key; }" := rfl
/-- model: `C.iterNew s false` (takes one reference on the tree object, none on keys or values) -/
theorem c_src_BPlusTree_iter_eq : c_src_BPlusTree_iter =
    "BPlusTreeIterator *iter = PyObject_New(BPlusTreeIterator, &BPlusTreeIteratorType); if (!iter) return NULL; Py_INCREF(self); iter->tree = self; BPlusNode *first_leaf = self->root; if (first_leaf) { while (first_leaf->type == NODE_BRANCH) { first_leaf = node_get_child(first_leaf, 0); if (!first_leaf) break; } } iter->current_node = first_leaf; iter->current_index = 0; iter->include_values = 0; iter->modification_count = self->modification_count; return (PyObject *)iter;" := rfl
/-- model: `C.iterNew s false` -/
theorem c_src_BPlusTree_keys_eq : c_src_BPlusTree_keys =
    "return BPlusTree_iter(self);" := rfl
/-- model: `C.iterNew s true` -/
theorem c_src_BPlusTree_items_eq : c_src_BPlusTree_items =
    "BPlusTreeIterator *iter = PyObject_New(BPlusTreeIterator, &BPlusTreeIteratorType); if (!iter) return NULL; Py_INCREF(self); iter->tree = self; BPlusNode *first_leaf = self->root; if (first_leaf) { while (first_leaf->type == NODE_BRANCH) { first_leaf = node_get_child(first_leaf, 0); if (!first_leaf) break; } } iter->current_node = first_leaf; iter->current_index = 0; iter->include_values = 1; iter->modification_count = self->modification_count; return (PyObject *)iter;" := rfl
/-- releases the iterator's reference on the tree object only -/
theorem c_src_BPlusTreeIterator_dealloc_eq : c_src_BPlusTreeIterator_dealloc =
    "Py_XDECREF(self->tree); Py_TYPE(self)->tp_free((PyObject *)self);" := rfl


/-- model: `C.nodeFindPosition` (= `lowerBound` on sorted keys, `C.nodeFindPosition_eq`) -/
theorem c_src_node_find_position_eq : c_src_node_find_position =
    "int left = 0; int right = node->num_keys; while (left < right) { int mid = (left + right) / 2; PyObject *mid_key = node_get_key(node, mid); int result = fast_compare_lt(mid_key, key); if (result < 0) { return -1; } if (result) { left = mid + 1; } else { right = mid; } } return left;" := rfl
/-- model: `C.fastLtInt` for exact ints (`C.fastLtInt_eq`), `C.fastLtStr` for exact str (`C.fastLtStr_spec`); the rich-compare
    fallback is the key type's own order -/
theorem c_src_fast_compare_lt_eq : c_src_fast_compare_lt =
    "if (PyLong_CheckExact(a) && PyLong_CheckExact(b)) { long val_a = PyLong_AsLong(a); long val_b = PyLong_AsLong(b); if (!PyErr_Occurred()) { return val_a < val_b ? 1 : 0; } PyErr_Clear(); } if (PyUnicode_CheckExact(a) && PyUnicode_CheckExact(b)) { int result = PyUnicode_Compare(a, b); if (result != -1 || !PyErr_Occurred()) { return result < 0 ? 1 : 0; } PyErr_Clear(); } return PyObject_RichCompareBool(a, b, Py_LT);" := rfl
/-- model: `C.fastEqInt` for exact ints (`C.fastEqInt_eq`), `C.fastEqStr` for exact str (`C.fastLtStr_spec`) -/
theorem c_src_fast_compare_eq_eq : c_src_fast_compare_eq =
    "if (PyLong_CheckExact(a) && PyLong_CheckExact(b)) { long val_a = PyLong_AsLong(a); long val_b = PyLong_AsLong(b); if (!PyErr_Occurred()) { return val_a == val_b ? 1 : 0; } PyErr_Clear(); } if (PyUnicode_CheckExact(a) && PyUnicode_CheckExact(b)) { int result = PyUnicode_Compare(a, b); if (result != -1 || !PyErr_Occurred()) { return result == 0 ? 1 : 0; } PyErr_Clear(); } return PyObject_RichCompareBool(a, b, Py_EQ);" := rfl

end BPT.TieC
