import BPT.Rust.Raw
/-
  The introspection readers (`collect_leaf_ids`, `count_nodes_recursive`, `leaf_count`, `len`,
  `leaf_sizes`) descend through `children` in the same way, over ANY raw map.  `Walk` is that
  descent as a relation; each reader is a function of what it meets.  `Reach` is reachability from the root through
  child references.
-/
namespace BPT.Rust
open BPT RawMap
variable {K V : Type}

theorem concatRes_map_eq_ok {α β : Type} {r : α → Res (List β)} {l : List α} {L : List β} :
    concatRes (l.map r) = .ok L ↔ ∃ g : α → List β, (∀ a ∈ l, r a = .ok (g a)) ∧ L = l.flatMap g := by
  constructor
  · intro h
    refine ⟨fun a => match r a with | .ok x => x | _ => [], ?_⟩
    induction l generalizing L with
    | nil => exact ⟨nofun, (Res.ok.inj h).symm⟩
    | cons a l ih =>
      obtain ⟨x, hx, h⟩ := Res.bind_eq_ok h
      obtain ⟨L', hL', rfl⟩ := Res.map_eq_ok h
      obtain ⟨h1, rfl⟩ := ih hL'
      refine ⟨List.forall_mem_cons.2 ⟨by simp only [hx], h1⟩, ?_⟩
      simp only [List.flatMap_cons, hx]
  · rintro ⟨g, hg, rfl⟩
    induction l with
    | nil => rfl
    | cons a l ih =>
      rw [List.forall_mem_cons] at hg
      simp only [List.map_cons, concatRes, hg.1, Res.bind_ok, ih hg.2, Res.map_ok, List.flatMap_cons]

theorem sumRes_map_ok {α : Type} {r : α → Res Nat} {l : List α} (g : α → Nat) (h : ∀ a ∈ l, r a = .ok (g a)) :
    sumRes (l.map r) = .ok (l.map g).sum := by
  induction l with
  | nil => rfl
  | cons a l ih =>
    rw [List.forall_mem_cons] at h
    simp only [List.map_cons, sumRes, h.1, Res.bind_ok, ih h.2, Res.map_ok, List.sum_cons]

/-- the branch ids `count_nodes_recursive` tallies, as a list (specification-side twin of `countNodesFrom`) -/
def branchIdsFrom (m : RawMap K V) : Nat → NodeRef → Res (List Nat)
  | 0, _ => .diverge
  | _+1, .leaf _ => .ok []
  | f+1, .branch id =>
    match m.getBranch id with
    | none => .ok []
    | some b => (concatRes (b.children.map (branchIdsFrom m f))).map (id :: ·)

/-- the descent from `n` returns within fuel `f`, having met leaf references `L` and stored branches `B` in visiting
    order; an unallocated branch slot is passed over, as every reader does -/
inductive Walk (m : RawMap K V) : Nat → NodeRef → List Nat → List Nat → Prop where
  | leaf (f id : Nat) : Walk m (f+1) (.leaf id) [id] []
  | dangling (f id : Nat) : m.getBranch id = none → Walk m (f+1) (.branch id) [] []
  | branch (f id : Nat) (b : RBranch K) (gl gb : NodeRef → List Nat) : m.getBranch id = some b →
      (∀ c ∈ b.children, Walk m f c (gl c) (gb c)) →
      Walk m (f+1) (.branch id) (b.children.flatMap gl) (id :: b.children.flatMap gb)

variable {m : RawMap K V} {f : Nat} {n : NodeRef} {L B : List Nat}

theorem Walk.leafIds (h : Walk m f n L B) : m.leafIdsFrom f n = .ok L := by
  induction h with
  | leaf f id => rfl
  | dangling f id hg => simp only [leafIdsFrom, hg]
  | branch f id b gl gb hg _ ih =>
    simp only [leafIdsFrom, hg]
    exact concatRes_map_eq_ok.2 ⟨gl, ih, rfl⟩

theorem Walk.branchIds (h : Walk m f n L B) : branchIdsFrom m f n = .ok B := by
  induction h with
  | leaf f id => rfl
  | dangling f id hg => simp only [branchIdsFrom, hg]
  | branch f id b gl gb hg _ ih =>
    simp only [branchIdsFrom, hg]
    rw [concatRes_map_eq_ok.2 ⟨gb, ih, rfl⟩]; rfl

theorem Walk.countNodes (h : Walk m f n L B) : m.countNodesFrom f n = .ok (L.length, B.length) := by
  induction h with
  | leaf f id => rfl
  | dangling f id hg => simp only [countNodesFrom, hg]; rfl
  | branch f id b gl gb hg _ ih =>
    simp only [countNodesFrom, hg]
    rw [sumRes_map_ok (fun c => (gl c).length) fun c hc => by rw [ih c hc]; rfl, Res.bind_ok,
      sumRes_map_ok (fun c => (gb c).length) fun c hc => by rw [ih c hc]; rfl]
    simp only [Res.map_ok, List.length_flatMap, List.length_cons]

theorem countNodes_eq (m : RawMap K V) : m.countNodes = m.countNodesFrom m.fuel m.root := by
  unfold RawMap.countNodes; cases m.root <;> rfl

theorem Walk.countNodes_top {cnt : Nat × Nat} (hw : Walk m m.fuel m.root L B) (hcnt : m.countNodes = .ok cnt) :
    cnt = (L.length, B.length) :=
  Res.ok.inj (hcnt.symm.trans ((countNodes_eq m).trans hw.countNodes))

theorem Walk.leafCount (h : Walk m f n L B) : m.leafCountFrom f n = .ok L.length := by
  induction h with
  | leaf f id => rfl
  | dangling f id hg => simp only [leafCountFrom, hg]; rfl
  | branch f id b gl gb hg _ ih =>
    simp only [leafCountFrom, hg, List.length_flatMap]
    exact sumRes_map_ok (fun c => (gl c).length) ih

theorem Walk.leafSizes (h : Walk m f n L B) : m.leafSizesFrom f n = .ok ((L.filterMap m.getLeaf).map (·.keys.length)) := by
  induction h with
  | leaf f id => simp only [leafSizesFrom, List.filterMap_cons, List.filterMap_nil]; cases m.getLeaf id <;> rfl
  | dangling f id hg => simp only [leafSizesFrom, hg]; rfl
  | branch f id b gl gb hg _ ih =>
    simp only [leafSizesFrom, hg]
    exact concatRes_map_eq_ok.2 ⟨_, ih, by rw [List.filterMap_flatMap, List.map_flatMap]⟩

theorem Walk.len (h : Walk m f n L B) : m.lenFrom f n = .ok ((L.filterMap m.getLeaf).map (·.keys.length)).sum := by
  induction h with
  | leaf f id => simp only [lenFrom, List.filterMap_cons, List.filterMap_nil]; cases m.getLeaf id <;> rfl
  | dangling f id hg => simp only [lenFrom, hg]; rfl
  | branch f id b gl gb hg _ ih =>
    simp only [lenFrom, hg]
    rw [List.filterMap_flatMap, List.map_flatMap, sum_flatMap]
    exact sumRes_map_ok _ ih

theorem Walk.of_leafIds : ∀ {f : Nat} {n : NodeRef} {L : List Nat}, m.leafIdsFrom f n = .ok L → ∃ B, Walk m f n L B := by
  intro f
  induction f with
  | zero => intro _ _ h; cases h
  | succ f ih =>
    intro n L h
    cases n with
    | leaf id => cases h; exact ⟨[], .leaf f id⟩
    | branch id =>
      unfold leafIdsFrom at h
      cases hg : m.getBranch id with
      | none => rw [hg] at h; cases h; exact ⟨[], .dangling f id hg⟩
      | some b =>
        rw [hg] at h
        obtain ⟨gl, hgl, rfl⟩ := concatRes_map_eq_ok.1 h
        refine ⟨_, .branch f id b gl (fun c => match branchIdsFrom m f c with | .ok B => B | _ => []) hg fun c hc => ?_⟩
        obtain ⟨B, hB⟩ := ih (hgl c hc)
        rw [hB.branchIds]; exact hB

theorem Walk.iff : Walk m f n L B ↔ m.leafIdsFrom f n = .ok L ∧ branchIdsFrom m f n = .ok B := by
  refine ⟨fun h => ⟨h.leafIds, h.branchIds⟩, fun ⟨h1, h2⟩ => ?_⟩
  obtain ⟨B', h⟩ := Walk.of_leafIds h1
  cases h.branchIds.symm.trans h2
  exact h

/-- `r` need not be injective, so `gl`, `gb` do not factor through it and `Walk.branch` cannot be fed directly -/
theorem Walk.branch_map {α : Type} {id : Nat} {b : RBranch K} (hg : m.getBranch id = some b) (cs : List α) (r : α → NodeRef)
    (hcs : b.children = cs.map r) (gl gb : α → List Nat) (h : ∀ c ∈ cs, Walk m f (r c) (gl c) (gb c)) :
    Walk m (f+1) (.branch id) (cs.flatMap gl) (id :: cs.flatMap gb) := by
  refine Walk.iff.2 ⟨?_, ?_⟩
  · simp only [leafIdsFrom, hg, hcs, List.map_map]
    exact concatRes_map_eq_ok.2 ⟨gl, fun c hc => (h c hc).leafIds, rfl⟩
  · simp only [branchIdsFrom, hg, hcs, List.map_map]
    exact Res.map_eq_ok_iff.2 ⟨_, concatRes_map_eq_ok.2 ⟨gb, fun c hc => (h c hc).branchIds, rfl⟩, rfl⟩

theorem Walk.det (h : Walk m f n L B) : ∀ {f' : Nat} {L' B' : List Nat}, Walk m f' n L' B' → L' = L ∧ B' = B := by
  induction h with
  | leaf f id => intro _ _ _ h'; cases h'; exact ⟨rfl, rfl⟩
  | dangling f id hg =>
    intro _ _ _ h'
    cases h' with
    | dangling => exact ⟨rfl, rfl⟩
    | branch _ _ _ _ _ hg' => rw [hg] at hg'; cases hg'
  | branch f id b gl gb hg _ ih =>
    intro _ _ _ h'
    cases h' with
    | dangling _ _ hg' => rw [hg] at hg'; cases hg'
    | branch _ _ b' gl' gb' hg' hch' =>
      cases hg.symm.trans hg'
      rw [flatMap_congr fun c hc => (ih c hc (hch' c hc)).1, flatMap_congr fun c hc => (ih c hc (hch' c hc)).2]
      exact ⟨rfl, rfl⟩

/-- nodes reachable from the root through child references, with the flag "is the root" -/
inductive Reach (m : RawMap K V) : NodeRef → Bool → Prop where
  | root : Reach m m.root true
  | child (id : Nat) (b : RBranch K) (r : Bool) (i : Nat) (c : NodeRef) :
      Reach m (.branch id) r → m.getBranch id = some b → b.children[i]? = some c → Reach m c false

theorem Walk.reach (h : Walk m f n L B) : ∀ {r : Bool}, Reach m n r →
    (∀ id ∈ L, ∃ r', Reach m (.leaf id) r') ∧ (∀ id ∈ B, ∃ r', Reach m (.branch id) r') := by
  induction h with
  | leaf f id => intro r hr; exact ⟨fun x hx => by cases List.mem_singleton.1 hx; exact ⟨r, hr⟩, nofun⟩
  | dangling f id hg => intro _ _; exact ⟨nofun, nofun⟩
  | branch f id b gl gb hg _ ih =>
    intro r hr
    have hc : ∀ c ∈ b.children, Reach m c false := fun c hc =>
      let ⟨i, hi⟩ := List.getElem?_of_mem hc; .child id b r i c hr hg hi
    refine ⟨fun x hx => ?_, fun x hx => ?_⟩
    · obtain ⟨c, hcm, hx⟩ := List.mem_flatMap.1 hx
      exact (ih c hcm (hc c hcm)).1 x hx
    · rcases List.mem_cons.1 hx with rfl | hx
      · exact ⟨r, hr⟩
      · obtain ⟨c, hcm, hx⟩ := List.mem_flatMap.1 hx
        exact (ih c hcm (hc c hcm)).2 x hx

end BPT.Rust
