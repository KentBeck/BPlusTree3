import BPT.Rust.Top
import BPT.Core.Fold
/-
  C01 — Rust map: every call history agrees with a reference ordered map.

  `step` is the map-level API of the Rust model (`none` = the Rust code panics);
  `specStep` is the same API on the reference: a strictly sorted association
  list (`SMap`, what `BTreeMap` is observationally; its laws are in BPT/Core/SMap.lean).
-/
namespace BPT.Props.C01
open BPT BPT.Rust

variable {K V : Type} [Keyed K]

inductive Op (K V : Type) where
  | insert (k : K) (v : V)
  | remove (k : K)
  | get (k : K)
  | getMut (k : K) (v : V)        -- `if let Some(x) = get_mut(k) { *x = v }`, reports the old value
  | containsKey (k : K)
  | getOrDefault (k : K) (d : V)
  | len
  | isEmpty
  | clear

inductive Out (V : Type) where
  | optVal (o : Option V)
  | val (v : V)
  | flag (b : Bool)
  | num (n : Nat)
  | unit

def step (s : RState K V) : Op K V → Option (RState K V × Out V)
  | .insert k v => (insert s k v).map fun r => (r.1, .optVal r.2)
  | .remove k => (remove s k).map fun r => (r.1, .optVal r.2)
  | .get k => some (s, .optVal ((get s k).map (·.2)))
  | .getMut k v => some ((getMutWrite s k v).1, .optVal (getMutWrite s k v).2)
  | .containsKey k => some (s, .flag (get s k).isSome)
  | .getOrDefault k d => some (s, .val (match get s k with | some p => p.2 | none => d))
  | .len => some (s, .num (len s))
  | .isEmpty => some (s, .flag (len s == 0))
  | .clear => some (clear s, .unit)

/-- the reference: `BTreeMap` as a sorted association list -/
def specStep (m : List (K × V)) : Op K V → List (K × V) × Out V
  | .insert k v => (SMap.insert m k v, .optVal ((SMap.lookup m k).map (·.2)))
  | .remove k => (SMap.erase m k, .optVal ((SMap.lookup m k).map (·.2)))
  | .get k => (m, .optVal ((SMap.lookup m k).map (·.2)))
  | .getMut k v => (SMap.adjust m k v, .optVal ((SMap.lookup m k).map (·.2)))
  | .containsKey k => (m, .flag (SMap.lookup m k).isSome)
  | .getOrDefault k d => (m, .val (match SMap.lookup m k with | some p => p.2 | none => d))
  | .len => (m, .num m.length)
  | .isEmpty => (m, .flag (m.length == 0))
  | .clear => ([], .unit)

def run : RState K V → List (Op K V) → Option (List (Out V))
  | _, [] => some []
  | s, op :: ops =>
    match step s op with
    | none => none
    | some (s', o) => (run s' ops).map (o :: ·)

def specRun : List (K × V) → List (Op K V) → List (Out V)
  | _, [] => []
  | m, op :: ops => (specStep m op).2 :: specRun (specStep m op).1 ops

theorem step_state_cases {motive : RState K V → Prop} {s s' : RState K V} {op : Op K V} {o : Out V}
    (he : step s op = some (s', o))
    (insert : ∀ k v old, Rust.insert s k v = some (s', old) → motive s')
    (remove : ∀ k old, Rust.remove s k = some (s', old) → motive s')
    (getMut : ∀ k v, motive (getMutWrite s k v).1) (clear : motive (Rust.clear s)) (reader : motive s) : motive s' := by
  cases op with
  | insert k v => obtain ⟨p, hi, hp⟩ := Option.map_eq_some_iff.1 he; cases hp; exact insert k v p.2 hi
  | remove k => obtain ⟨p, hi, hp⟩ := Option.map_eq_some_iff.1 he; cases hp; exact remove k p.2 hi
  | getMut k v => cases he; exact getMut k v
  | clear => cases he; exact clear
  | _ => cases he; exact reader

/-- **Step refinement.**  On a state satisfying the invariant no call panics, every
    call returns what the reference returns, and the abstraction commutes. -/
theorem step_refines (s : RState K V) (op : Op K V) (hi : Inv s) :
    ∃ s' o, step s op = some (s', o) ∧ Inv s' ∧ abs s' = (specStep (abs s) op).1 ∧ o = (specStep (abs s) op).2 ∧
      s'.cap = s.cap := by
  cases op with
  | insert k v =>
    obtain ⟨s', old, he, h1, h2, h3, h4⟩ := insert_spec s k v hi
    exact ⟨s', .optVal old, by simp [step, he], h1, h2, by rw [h3]; rfl, h4⟩
  | remove k =>
    obtain ⟨s', old, he, h1, h2, h3, h4⟩ := remove_spec s k hi
    exact ⟨s', .optVal old, by simp [step, he], h1, h2, by rw [h3]; rfl, h4⟩
  | get k => exact ⟨s, _, rfl, hi, rfl, by rw [get_spec s k hi]; rfl, rfl⟩
  | getMut k v =>
    obtain ⟨h1, h2, h3, h4⟩ := getMutWrite_spec s k v hi
    exact ⟨_, _, rfl, h1, h3, by rw [h2]; rfl, h4⟩
  | containsKey k => exact ⟨s, _, rfl, hi, rfl, by rw [get_spec s k hi]; rfl, rfl⟩
  | getOrDefault k d => exact ⟨s, _, rfl, hi, rfl, by rw [get_spec s k hi]; rfl, rfl⟩
  | len => exact ⟨s, _, rfl, hi, rfl, by rw [len_spec s hi]; rfl, rfl⟩
  | isEmpty => exact ⟨s, _, rfl, hi, rfl, by rw [len_spec s hi]; rfl, rfl⟩
  | clear =>
    obtain ⟨h1, h2, h3⟩ := clear_spec s hi
    exact ⟨_, _, rfl, h1, h2, rfl, h3⟩

theorem run_refines (ops : List (Op K V)) : ∀ (s : RState K V), Inv s → run s ops = some (specRun (abs s) ops) := by
  induction ops with
  | nil => intro s _; rfl
  | cons op ops ih =>
    intro s hi
    obtain ⟨s', o, he, h1, h2, h3, _⟩ := step_refines s op hi
    simp only [run, he, specRun]
    rw [ih s' h1, h2, h3]; rfl

/-- **C01.** For every accepted capacity and every finite call history on a new map,
    no call panics and every call returns what the reference ordered map returns. -/
theorem refines_btreemap (cap : Nat) (hcap : 4 ≤ cap) (ops : List (Op K V)) :
    ∃ s, (new cap : Option (RState K V)) = some s ∧ run s ops = some (specRun [] ops) := by
  obtain ⟨s, he, hi, habs, _⟩ := (new_spec (K := K) (V := V) cap).2 hcap
  exact ⟨s, he, by rw [run_refines ops s hi, habs]⟩

theorem reachable_inv (ops : List (Op K V)) : ∀ (s : RState K V), Inv s →
    ∀ s', (ops.foldl (fun (acc : Option (RState K V)) op => acc.bind fun s => (step s op).map (·.1)) (some s)) = some s' → Inv s' :=
  fun s hi s' => foldl_bind_inv (fun (s : RState K V) (op : Op K V) => (step s op).map (·.1)) Inv
    (fun s _ op hi he => by
      obtain ⟨s1, o, he1, h1, _⟩ := step_refines s op hi
      rw [he1] at he; cases he; exact h1) ops s s' hi

/-- the abstraction is strictly ascending by key, so `len` counts distinct live keys -/
theorem abs_sorted (s : RState K V) (hi : Inv s) : SMap.Sorted (abs s) :=
  Tree.toList_sorted s.height s.root none none hi.ord

theorem insert_keeps_first_key_object (m : List (K × V)) (k k' : K) (v v' : V) (hs : SMap.Sorted m)
    (h : SMap.lookup m k = some (k', v')) : SMap.lookup (SMap.insert m k v) k = some (k', v) := by
  rw [SMap.lookup_insert_self m k v hs, h]; rfl

theorem insert_absent (m : List (K × V)) (k : K) (v : V) (hs : SMap.Sorted m) (h : SMap.lookup m k = none) :
    SMap.lookup (SMap.insert m k v) k = some (k, v) := by
  rw [SMap.lookup_insert_self m k v hs, h]; rfl

/-- every other entry is untouched by insert, remove and a `get_mut` write -/
theorem lookup_insert_ne (m : List (K × V)) (k j : K) (v : V) (hne : ord j ≠ ord k) :
    SMap.lookup (SMap.insert m k v) j = SMap.lookup m j :=
  SMap.lookup_insert_ne m k j v hne

theorem lookup_erase_ne (m : List (K × V)) (k j : K) (hne : ord j ≠ ord k) :
    SMap.lookup (SMap.erase m k) j = SMap.lookup m j :=
  SMap.lookup_erase_ne m k j hne

/-- a sorted map holds a key at most once -/
theorem lookup_erase_self (m : List (K × V)) (k : K) (hs : SMap.Sorted m) : SMap.lookup (SMap.erase m k) k = none :=
  SMap.lookup_erase_self m k hs

/-- `len` moves by exactly one when, and only when, the key set changes -/
theorem length_insert (m : List (K × V)) (k : K) (v : V) (hs : SMap.Sorted m) :
    (SMap.insert m k v).length = if (SMap.lookup m k).isSome then m.length else m.length + 1 :=
  SMap.length_insert m k v hs

theorem length_erase (m : List (K × V)) (k : K) :
    (SMap.erase m k).length = if (SMap.lookup m k).isSome then m.length - 1 else m.length :=
  SMap.length_erase m k

theorem lookup_adjust_ne (m : List (K × V)) (k j : K) (v : V) (hne : ord j ≠ ord k) :
    SMap.lookup (SMap.adjust m k v) j = SMap.lookup m j :=
  SMap.lookup_adjust_ne m k j v hne

/-! non-vacuity: a concrete history at capacity 4 runs through without a panic, one output per call -/
example :
    (run (freshState 4 : RState Int Nat)
      ((List.range 12).map (fun i => Op.insert (Int.ofNat i) i) ++ (List.range 11).map (fun i => Op.remove (Int.ofNat i)) ++ [Op.len, Op.get 11])).map
      (fun outs => outs.length) = some 25 := by decide +kernel

/-- after `clear()` the map is, field for field (root, arenas, free lists, height), the map `new(capacity)` returns -/
theorem clear_is_new (s : RState K V) (hc : minCapacity ≤ s.cap) : some (clear s) = (new s.cap : Option (RState K V)) :=
  (new_of_le s.cap hc).symm

theorem history_after_clear (s : RState K V) (ops : List (Op K V)) :
    run (clear s) ops = run (freshState s.cap) ops := rfl

end BPT.Props.C01
