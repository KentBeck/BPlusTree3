import BPT.Rust.SInv
/-
  Arena growth per call: an arena's storage only grows when its free list is empty, so after an insert an arena
  that has grown holds exactly the live nodes (`insert_len_le`), and a remove changes no length (`remove_lens`).
-/
namespace BPT.Rust
open BPT Tree
variable {K V : Type}

/-- what a sequence of `allocate` calls does to an allocator -/
def AllocGrow (a a' : Alloc) : Prop :=
  a.len ≤ a'.len ∧ (a.len < a'.len → a'.free = []) ∧ (a.free = [] → a'.free = [])

theorem AllocGrow.len_le {a a' : Alloc} (h : AllocGrow a a') : a.len ≤ a'.len := h.1
theorem AllocGrow.free_of_lt {a a' : Alloc} (h : AllocGrow a a') (hl : a.len < a'.len) : a'.free = [] := h.2.1 hl
theorem AllocGrow.free_of_nil {a a' : Alloc} (h : AllocGrow a a') (hf : a.free = []) : a'.free = [] := h.2.2 hf

theorem AllocGrow.refl {a : Alloc} : AllocGrow a a := ⟨Nat.le_refl _, fun h => absurd h (Nat.lt_irrefl _), id⟩

theorem AllocGrow.alloc {a : Alloc} : AllocGrow a a.alloc.2 := by
  unfold Alloc.alloc
  cases hf : a.free with
  | nil => exact ⟨by simp, fun _ => rfl, fun _ => rfl⟩
  | cons i rest => exact ⟨by simp, fun h => by simp at h, fun h => by rw [hf] at h; cases h⟩

theorem AllocGrow.trans {a b c : Alloc} (h1 : AllocGrow a b) (h2 : AllocGrow b c) : AllocGrow a c := by
  refine ⟨Nat.le_trans h1.len_le h2.len_le, ?_, fun h => h2.free_of_nil (h1.free_of_nil h)⟩
  intro hlt
  by_cases hbc : b.len < c.len
  · exact h2.free_of_lt hbc
  · have : a.len < b.len := by have := h2.len_le; omega
    exact h2.free_of_nil (h1.free_of_lt this)

/-- an arena that has grown has an empty free list, so its length is the number `n` of slots in use -/
theorem AllocGrow.len_le_max {a a' : Alloc} (g : AllocGrow a a') {n : Nat} (hl : n + a'.free.length = a'.len) :
    a'.len ≤ max a.len n := by
  by_cases h : a.len < a'.len
  · rw [g.free_of_lt h] at hl; exact Nat.le_trans (Nat.le_of_eq hl.symm) (Nat.le_max_right _ _)
  · exact Nat.le_trans (Nat.le_of_not_lt h) (Nat.le_max_left _ _)

def sameLens (al al' : Allocs) : Prop := al'.leaf.len = al.leaf.len ∧ al'.branch.len = al.branch.len

theorem sameLens.refl (al : Allocs) : sameLens al al := ⟨rfl, rfl⟩
theorem sameLens.trans {a b c : Allocs} (h1 : sameLens a b) (h2 : sameLens b c) : sameLens a c :=
  ⟨h2.1.trans h1.1, h2.2.trans h1.2⟩

/-- `dealloc` changes a free list, not a length: every case by `rfl` -/
theorem rebalance_lens {cap h : Nat} {b : Branch K (Tree K V h)} {i : Nat} {al : Allocs} {b2 : Branch K (Tree K V h)} {al2 : Allocs}
    (he : rebalance cap h b i al = some (b2, al2)) : sameLens al al2 := by
  cases h with
  | zero => cases rebalanceLeaf_shape he <;> exact ⟨rfl, rfl⟩
  | succ h => cases rebalanceBranch_shape he <;> exact ⟨rfl, rfl⟩

variable [Keyed K]

/-- insert only allocates -/
theorem insertRec_grow (cap : Nat) :
    ∀ (h : Nat) (t : Tree K V h) (k : K) (v : V) (al : Allocs) (res : InsRes K V h) (al' : Allocs),
      insertRec cap h t k v al = some (res, al') → AllocGrow al.leaf al'.leaf ∧ AllocGrow al.branch al'.branch := by
  intro h t k v
  refine insertRec_induction cap k v (fun _ _ al _ al' => AllocGrow al.leaf al'.leaf ∧ AllocGrow al.branch al'.branch) ?_ ?_ ?_ h t
  · intro l al res al' he
    have h1 := insertLeaf_links_branchAlloc cap l k v al res al' he
    rw [h1.2]
    refine ⟨?_, AllocGrow.refl⟩
    cases h1.1 with
    | same _ h2 => rw [h2]; exact AllocGrow.refl
    | split _ _ _ _ _ _ h3 => rw [h3]; exact AllocGrow.alloc
  · intro _ _ al _; exact ⟨AllocGrow.refl, AllocGrow.refl⟩
  · intro h b c al cres al1 res al' _ ih hu
    cases (insertUp_eq_some cap b _ _).1 hu with
    | updated _ _ _ => exact ih
    | fits _ _ _ _ _ _ => exact ih
    | cut _ _ _ _ _ _ _ _ => exact ⟨ih.1, ih.2.trans AllocGrow.alloc⟩

theorem insert_grow (s s' : RState K V) (k : K) (v : V) (old : Option V) (he : insert s k v = some (s', old)) :
    AllocGrow s.al.leaf s'.al.leaf ∧ AllocGrow s.al.branch s'.al.branch := by
  obtain ⟨res, al', hrec, ⟨t, _, rfl⟩ | ⟨l, r, sep, _, rfl⟩⟩ := insert_some he
  · exact insertRec_grow s.cap s.height s.root k v s.al res al' hrec
  · have hg := insertRec_grow s.cap s.height s.root k v s.al res al' hrec
    exact ⟨hg.1, hg.2.trans AllocGrow.alloc⟩

-- the live nodes of a state, per arena
def liveLeaves (s : RState K V) : Nat := (leaves s.height s.root).length
def liveBranches (s : RState K V) : Nat := (bids s.height s.root).length

theorem live_plus_free (s : RState K V) (hs : SInv s) :
    liveLeaves s + s.al.leaf.free.length = s.al.leaf.len ∧ liveBranches s + s.al.branch.free.length = s.al.branch.len := by
  have h1 := hs.leaves_idsOK.length
  rw [List.length_map] at h1
  exact ⟨h1, hs.branchIds.length⟩

/-- **an insert never makes an arena larger than the number of nodes live after it, unless it did not grow at all** -/
theorem insert_len_le (s s' : RState K V) (k : K) (v : V) (old : Option V) (hs : SInv s)
    (he : insert s k v = some (s', old)) :
    s'.al.leaf.len ≤ max s.al.leaf.len (liveLeaves s') ∧ s'.al.branch.len ≤ max s.al.branch.len (liveBranches s') := by
  obtain ⟨g1, g2⟩ := insert_grow s s' k v old he
  obtain ⟨l1, l2⟩ := live_plus_free s' (insert_sinv s k v hs s' old he)
  exact ⟨g1.len_le_max l1, g2.len_le_max l2⟩

/-- remove only releases slots: no arena grows -/
theorem removeRec_lens (cap : Nat) : ∀ (h : Nat) (t : Tree K V h) (k : K) (al : Allocs) (r : RemOut K V h) (al' : Allocs),
    removeRec cap h t k al = some (r, al') → sameLens al al' := by
  intro h t k
  refine removeRec_induction cap k (fun _ _ al _ al' => sameLens al al') ?_ ?_ ?_ ?_ h t
  · intro _ al _ _; exact sameLens.refl al
  · intro _ _ al _; exact sameLens.refl al
  · intro _ _ _ _ _ _ _ _ ih; exact ih
  · intro _ _ _ _ _ _ _ _ _ _ ih hreb; exact ih.trans (rebalance_lens hreb)

theorem collapse_lens (h : Nat) (t : Tree K V h) (al : Allocs) (lo hi : Option Int) (ho : Ordered h t lo hi) :
    sameLens al (collapse h t al).2 := by
  fun_induction collapse h t al with
  | case1 al l => exact sameLens.refl _
  | case2 h al c b hch ih => exact ih (ordered_single ho hch).1
  | case3 h al lid b hch => exact absurd hch ho.children_ne_nil   -- the one case that allocates
  | case4 h al c c2 rest b hch => exact sameLens.refl _

theorem remove_lens (s s' : RState K V) (k : K) (old : Option V) (hs : SInv s) (he : remove s k = some (s', old)) :
    sameLens s.al s'.al := by
  obtain ⟨r, al', hr, hp⟩ := removeRec_root s k hs.inv
  have h1 := removeRec_lens s.cap s.height s.root k s.al r al' hr
  cases hold : r.old with
  | none => rw [remove_of_absent hr hold] at he; cases he; exact h1
  | some v =>
    rw [remove_of_present hr (by rw [hold]; rfl)] at he; cases he
    exact h1.trans (collapse_lens s.height r.t al' none none hp.ord)

end BPT.Rust
