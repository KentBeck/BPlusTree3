import BPT.Rust.ViewIter
import BPT.Rust.Walk
/-
  The introspection readers on an embedded tree: one induction over the tree (`Embeds.walk`) shows that
  their descent meets the tree's leaves and branches; each reader's answer then follows from `Walk`.
-/
namespace BPT.Rust
open BPT Tree
variable {K V : Type} [Keyed K]

/-- number of keys held by the leaves of `t` -/
def keyCount (h : Nat) (t : Tree K V h) : Nat := ((Tree.leaves h t).map (fun l => l.keys.length)).sum

theorem Embeds.walk (m : RawMap K V) (cap : Nat) : ∀ (h : Nat) (t : Tree K V h) (f : Nat),
    Embeds m cap h t → h < f → Walk m f (ref h t) ((Tree.leaves h t).map (·.id)) (bids h t) :=
  Embeds.descend (fun l f _ => .leaf f l.id) fun h b f hg ih => by
    rw [ref_succ, bids_succ, Tree.leaves, List.map_flatMap]
    exact Walk.branch_map hg b.children (ref h) rfl _ _ ih

theorem lenFrom_spec (m : RawMap K V) (cap : Nat) : ∀ (h : Nat) (t : Tree K V h) (f : Nat),
    Embeds m cap h t → h < f → m.lenFrom f (ref h t) = .ok (keyCount h t) := by
  intro h t f he hf
  rw [(Embeds.walk m cap h t f he hf).len, he.stored_leaves, List.map_map]; rfl

theorem leafCountFrom_spec (m : RawMap K V) (cap : Nat) : ∀ (h : Nat) (t : Tree K V h) (f : Nat),
    Embeds m cap h t → h < f → m.leafCountFrom f (ref h t) = .ok (Tree.leaves h t).length := by
  intro h t f he hf
  rw [(Embeds.walk m cap h t f he hf).leafCount, List.length_map]

theorem leafSizesFrom_spec (m : RawMap K V) (cap : Nat) : ∀ (h : Nat) (t : Tree K V h) (f : Nat),
    Embeds m cap h t → h < f → m.leafSizesFrom f (ref h t) = .ok ((Tree.leaves h t).map (fun l => l.keys.length)) := by
  intro h t f he hf
  rw [(Embeds.walk m cap h t f he hf).leafSizes, he.stored_leaves, List.map_map]; rfl

theorem leafIdsFrom_spec (m : RawMap K V) (cap : Nat) : ∀ (h : Nat) (t : Tree K V h) (f : Nat),
    Embeds m cap h t → h < f → m.leafIdsFrom f (ref h t) = .ok ((Tree.leaves h t).map (·.id)) :=
  fun h t f he hf => (Embeds.walk m cap h t f he hf).leafIds

theorem countNodesFrom_spec (m : RawMap K V) (cap : Nat) : ∀ (h : Nat) (t : Tree K V h) (f : Nat),
    Embeds m cap h t → h < f → m.countNodesFrom f (ref h t) = .ok ((Tree.leaves h t).length, (bids h t).length) := by
  intro h t f he hf
  rw [(Embeds.walk m cap h t f he hf).countNodes, List.length_map]

theorem view_len (s : RState K V) (hs : SInv s) (hsm : Small s) : (view s).len = .ok (abs s).length := by
  rw [RawMap.len, view_root, lenFrom_spec _ _ _ _ _ (view_embeds s hs hsm) (fuel_ok s hs)]
  exact congrArg Res.ok (leaves_keys_sum s.height s.root none none hs.inv.ord)

theorem view_leafCount (s : RState K V) (hs : SInv s) (hsm : Small s) :
    (view s).leafCount = .ok (Tree.leaves s.height s.root).length := by
  rw [RawMap.leafCount, view_root, leafCountFrom_spec _ _ _ _ _ (view_embeds s hs hsm) (fuel_ok s hs)]

theorem view_leafSizes (s : RState K V) (hs : SInv s) (hsm : Small s) :
    (view s).leafSizes = .ok ((Tree.leaves s.height s.root).map (fun l => l.keys.length)) := by
  rw [RawMap.leafSizes, view_root, leafSizesFrom_spec _ _ _ _ _ (view_embeds s hs hsm) (fuel_ok s hs)]

theorem view_leafIds (s : RState K V) (hs : SInv s) (hsm : Small s) :
    (view s).leafIds = .ok ((Tree.leaves s.height s.root).map (·.id)) := by
  rw [RawMap.leafIds, view_root, leafIdsFrom_spec _ _ _ _ _ (view_embeds s hs hsm) (fuel_ok s hs)]

theorem view_countNodes (s : RState K V) (hs : SInv s) (hsm : Small s) :
    (view s).countNodes = .ok ((Tree.leaves s.height s.root).length, (bids s.height s.root).length) := by
  rw [countNodes_eq, view_root, countNodesFrom_spec _ _ _ _ _ (view_embeds s hs hsm) (fuel_ok s hs)]

theorem view_isLeafRoot (s : RState K V) : (view s).isLeafRoot = decide (s.height = 0) := by
  unfold RawMap.isLeafRoot
  rw [view_root]
  unfold ref
  by_cases h : s.height = 0 <;> simp [h]

end BPT.Rust
