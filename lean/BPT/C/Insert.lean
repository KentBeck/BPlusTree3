import BPT.Core.Route
import BPT.Core.Occupancy
import BPT.Core.LinkIns
import BPT.C.Model
/-
  `tree_insert_recursive` / `node_insert_leaf` / `node_insert_branch` of the C extension: on an ordered tree whose
  nodes hold at most `cap` keys the model never reaches an out-of-bounds slot (`Res.ub`), and the result is ordered,
  within capacity, refines `SMap.insert` and changes the leaf chain by at most one split.  The model's geometry guards
  are discharged once, as equations: on well-shaped nodes the split paths are plain cuts of the would-be contents at
  `cap / 2`.  The recursion is then the descent of `Core/Route.lean` with these cut points.
-/
namespace BPT.C
open BPT Tree
open BPT.Rust (links)
open BPT.Py (PLinkIns)
variable {K V : Type} [Keyed K]

/-- no node above `cap` keys (the C tree has no lower occupancy bound: deletions never rebalance) -/
def CSized (cap : Nat) : (h : Nat) → Tree K V h → Prop
  | 0, (l : Leaf K V) => l.keys.length ≤ cap
  | h+1, (b : Branch K (Tree K V h)) => b.keys.length ≤ cap ∧ ∀ c ∈ b.children, CSized cap h c

/-- "lower bound, then step right on an equal key" is `bisect_right` on a sorted list -/
theorem routePos_eq (ks : List K) (k : K) (hs : KSorted ks) : routePos ks k = upperBound ks k := by
  induction ks with
  | nil => rfl
  | cons a as ih =>
    have hs' := List.pairwise_cons.1 hs
    have ih := ih hs'.2
    unfold routePos at ih ⊢
    rw [lowerBound_cons, upperBound_cons]
    by_cases h1 : ord a < ord k
    · rw [if_pos h1, if_pos (Int.le_of_lt h1), ← ih]
      simp only [List.getElem?_cons_succ]
      cases as[lowerBound as k]? with
      | none => rfl
      | some k' => simp only []; split <;> rfl
    · rw [if_neg h1]
      simp only [List.getElem?_cons_zero]
      by_cases h2 : ord a = ord k
      · -- every later key is above `a = k`
        have hub : upperBound as k = 0 := by
          cases as with
          | nil => rfl
          | cons b bs => rw [upperBound_cons, if_neg (by have := hs'.1 b List.mem_cons_self; omega)]
        rw [if_pos h2, if_pos (Int.le_of_eq h2), hub]
      · rw [if_neg h2, if_neg (by omega)]

def InsRes.links {h : Nat} : InsRes K V h → List (Nat × Nat)
  | .updated t => Rust.links h t
  | .inserted t => Rust.links h t
  | .split a b _ => Rust.links h a ++ Rust.links h b

/-- postcondition of the insert recursion on a subtree `t` -/
def InsPost (cap h : Nat) (lo hi : Option Int) (t : Tree K V h) (k : K) (v : V) : InsRes K V h → Prop
  | .updated t' => Ordered h t' lo hi ∧ toList h t' = SMap.insert (toList h t) k v ∧ CSized cap h t' ∧
      (SMap.lookup (toList h t) k).isSome
  | .inserted t' => Ordered h t' lo hi ∧ toList h t' = SMap.insert (toList h t) k v ∧ CSized cap h t' ∧
      SMap.lookup (toList h t) k = none
  | .split a b sep => Ordered h a lo (some (ord sep)) ∧ Ordered h b (some (ord sep)) hi ∧ InB lo hi (ord sep) ∧
      (∀ x, lo = some x → x < ord sep) ∧ toList h a ++ toList h b = SMap.insert (toList h t) k v ∧
      CSized cap h a ∧ CSized cap h b ∧ SMap.lookup (toList h t) k = none

section
omit [Keyed K]

/-- all that is used of the cut point `m = cap / 2`: `0 < m` for a cut with two non-empty halves and for the leaf guard
    `cap + 1 - m ≤ cap`; `m ≤ cap` for the other guards and for the sizes of the halves -/
theorem mid_bounds {cap : Nat} (hcap : 4 ≤ cap) : 0 < cap / 2 ∧ cap / 2 ≤ cap :=
  ⟨Nat.div_pos (Nat.le_trans (by decide) hcap) (by decide), Nat.div_le_self _ _⟩

theorem splitLeaf_eq (cfg : Cfg) (cap : Nat) (hcap : 4 ≤ cap) (l : Leaf K V) (k : K) (v : V) (nid pos : Nat)
    (hl : l.keys.length = l.vals.length) (hn : l.keys.length = cap) :
    ∃ sep, ((insertAt l.keys pos k).drop (cap / 2)).head? = some sep ∧
      splitLeaf cfg cap l k v nid pos =
        .ok (.split ({ id := l.id, keys := (insertAt l.keys pos k).take (cap / 2), vals := (insertAt l.vals pos v).take (cap / 2), next := nid } : Leaf K V)
                    ({ id := nid, keys := (insertAt l.keys pos k).drop (cap / 2), vals := (insertAt l.vals pos v).drop (cap / 2), next := l.next } : Leaf K V) sep,
             { inc := (if cfg.legacyRefs then ((insertAt l.keys pos k).map .key ++ (insertAt l.vals pos v).map .val) else [.key k, .val v]) ++ [.key sep] }) := by
  have hklen : (insertAt l.keys pos k).length = cap + 1 := by rw [length_insertAt, hn]
  have hvlen : (insertAt l.vals pos v).length = cap + 1 := by rw [length_insertAt, ← hl, hn]
  unfold splitLeaf
  have hm := mid_bounds hcap
  generalize cap / 2 = m at hm ⊢
  -- the arithmetic of the guards, for any cut point `0 < m ≤ cap`: `omega` is slow on `cap / 2`
  have ar : m < cap + 1 ∧ ¬ (cap + 1 > cap + 1 ∨ cap + 1 > cap + 1) ∧ ¬ (m > cap ∨ cap + 1 - m > cap) ∧
      ¬ (m + (cap + 1 - m) > cap + 1 ∨ m + (cap + 1 - m) > cap + 1) := by
    clear hklen hvlen hl hn; omega
  have hmid : m < (insertAt l.keys pos k).length := hklen ▸ ar.1
  refine ⟨(insertAt l.keys pos k)[m], by rw [List.head?_drop, List.getElem?_eq_getElem hmid], ?_⟩
  have hk2 : ((insertAt l.keys pos k).drop m).length ≤ cap + 1 - m := by rw [List.length_drop, hklen]; exact Nat.le_refl _
  have hv2 : ((insertAt l.vals pos v).drop m).length ≤ cap + 1 - m := by rw [List.length_drop, hvlen]; exact Nat.le_refl _
  simp only [hklen, hvlen]
  rw [if_neg ar.2.1, if_neg ar.2.2.1, if_neg ar.2.2.2, List.take_of_length_le hk2, List.take_of_length_le hv2,
    List.head?_drop, List.getElem?_eq_getElem hmid]

end

theorem insertLeaf_present (cfg : Cfg) (cap : Nat) (l : Leaf K V) (k k' : K) (v old : V) (nid : Nat)
    (hk' : l.keys[lowerBound l.keys k]? = some k') (he : ord k' = ord k) (hv : l.vals[lowerBound l.keys k]? = some old) :
    insertLeaf cfg cap l k v nid =
      .ok (.updated ({ l with vals := setAt l.vals (lowerBound l.keys k) v } : Leaf K V), { inc := [.val v], dec := [.val old] }) := by
  unfold insertLeaf
  simp only [hk', he, decide_true, if_true, hv]

theorem insertLeaf_absent (cfg : Cfg) (cap : Nat) (l : Leaf K V) (k : K) (v : V) (nid : Nat)
    (hnf : ∀ k', l.keys[lowerBound l.keys k]? = some k' → ord k' ≠ ord k) :
    insertLeaf cfg cap l k v nid =
      if l.keys.length ≥ cap then splitLeaf cfg cap l k v nid (lowerBound l.keys k)
      else .ok (.inserted ({ l with keys := insertAt l.keys (lowerBound l.keys k) k, vals := insertAt l.vals (lowerBound l.keys k) v } : Leaf K V),
                { inc := [.key k, .val v] }) := by
  unfold insertLeaf insertLeafAbsent
  cases hk' : l.keys[lowerBound l.keys k]? with
  | none => simp only [hk', Bool.false_eq_true, if_false]
  | some k' => simp only [hk', hnf k' hk', decide_false, Bool.false_eq_true, if_false]

theorem insertBranch_of_lt {α : Type} (cfg : Cfg) (cap : Nat) (b : Branch K α) (ci : Nat) (l r : α) (sep : K) (hlt : b.keys.length < cap) :
    insertBranch (V := V) cfg cap b ci l r sep =
      .ok (.inl { b with keys := insertAt b.keys (lowerBound b.keys sep) sep, children := insertAt (setAt b.children ci l) (lowerBound b.keys sep + 1) r },
           { inc := if cfg.legacyRefs then [.key sep] else [] }) := by
  have := lowerBound_le b.keys sep
  unfold insertBranch
  simp only []
  rw [if_neg (Nat.not_le.2 hlt), if_neg (Nat.not_lt.2 (Nat.lt_of_le_of_lt this hlt))]

theorem insertBranch_of_full {α : Type} (cfg : Cfg) (cap : Nat) (b : Branch K α) (ci : Nat) (l r : α) (sep : K)
    (hn : b.keys.length = cap) (hlen : b.children.length = b.keys.length + 1) (hci : ci < b.children.length) :
    ∃ pk, (insertAt b.keys (lowerBound b.keys sep) sep)[cap / 2]? = some pk ∧
      insertBranch (V := V) cfg cap b ci l r sep =
        .ok (.inr ({ id := b.id, keys := (insertAt b.keys (lowerBound b.keys sep) sep).take (cap / 2),
                     children := (insertAt (setAt b.children ci l) (lowerBound b.keys sep + 1) r).take (cap / 2 + 1) },
                   { id := 0, keys := (insertAt b.keys (lowerBound b.keys sep) sep).drop (cap / 2 + 1),
                     children := (insertAt (setAt b.children ci l) (lowerBound b.keys sep + 1) r).drop (cap / 2 + 1) },
                   pk),
             { inc := if cfg.legacyRefs then
                 (pk :: ((insertAt b.keys (lowerBound b.keys sep) sep).take (cap / 2) ++ (insertAt b.keys (lowerBound b.keys sep) sep).drop (cap / 2 + 1))).map .key
               else [] }) := by
  have hklen : (insertAt b.keys (lowerBound b.keys sep) sep).length = cap + 1 := by rw [length_insertAt, hn]
  have hclen : (insertAt (setAt b.children ci l) (lowerBound b.keys sep + 1) r).length = cap + 1 + 1 := by
    rw [length_insertAt, length_setAt hci, hlen, hn]
  unfold insertBranch
  have hm : cap / 2 ≤ cap := Nat.div_le_self _ _
  generalize cap / 2 = m at hm ⊢
  have ar : m < cap + 1 ∧ cap + 1 - (m + 1) ≤ cap - m ∧ cap + 1 + 1 - (m + 1) ≤ cap - m + 1 ∧
      ¬ (cap + 1 > cap + 1 ∨ cap + 1 + 1 > cap + 2) ∧
      ¬ (m + 1 + (cap - m) > cap + 1 ∨ m + 1 + (cap - m) + 1 > cap + 1 + 1) := by
    clear hklen hclen hn hlen hci; omega
  have hmid : m < (insertAt b.keys (lowerBound b.keys sep) sep).length := hklen ▸ ar.1
  refine ⟨_, List.getElem?_eq_getElem hmid, ?_⟩
  have hk2 : ((insertAt b.keys (lowerBound b.keys sep) sep).drop (m + 1)).length ≤ cap - m := by
    rw [List.length_drop, hklen]; exact ar.2.1
  have hc2 : ((insertAt (setAt b.children ci l) (lowerBound b.keys sep + 1) r).drop (m + 1)).length ≤ cap - m + 1 := by
    rw [List.length_drop, hclen]; exact ar.2.2.1
  simp only [hklen, hclen, hn]
  rw [if_pos (Nat.le_refl _), if_neg ar.2.2.2.1, if_neg ar.2.2.2.2, List.getElem?_eq_getElem hmid,
    List.take_of_length_le hk2, List.take_of_length_le hc2]

section
omit [Keyed K]

theorem CSized.keys_le {cap h : Nat} {b : Branch K (Tree K V h)} (hb : CSized cap (h+1) (b : Tree K V (h+1))) : b.keys.length ≤ cap := hb.1

theorem CSized.children {cap h : Nat} {b : Branch K (Tree K V h)} (hb : CSized cap (h+1) (b : Tree K V (h+1))) :
    ∀ c ∈ b.children, CSized cap h c := hb.2

theorem CSized.replace1 {cap h : Nat} {b : Branch K (Tree K V h)} {c' : Tree K V h} (i : Nat)
    (hb : CSized cap (h+1) (b : Tree K V (h+1))) (hc' : CSized cap h c') : CSized cap (h+1) (b.replace1 i c' : Tree K V (h+1)) :=
  ⟨hb.keys_le, fun x hx => (b.mem_replace1 i c' x hx).elim (· ▸ hc') (hb.children x)⟩

end

theorem insertLeaf_spec (cfg : Cfg) (cap : Nat) (hcap : 4 ≤ cap) (l : Leaf K V) (lo hi : Option Int) (k : K) (v : V) (nid : Nat)
    (ho : Ordered 0 (l : Tree K V 0) lo hi) (hk : InB lo hi (ord k)) (hsz : l.keys.length ≤ cap) :
    ∃ res ev, insertLeaf cfg cap l k v nid = .ok (res, ev) ∧ InsPost cap 0 lo hi (l : Tree K V 0) k v res ∧
      PLinkIns (links 0 (l : Tree K V 0)) res.links nid (match res with | .split _ _ _ => nid + 1 | _ => nid) := by
  rcases lowerBound_hit_or_miss l.keys k with ⟨k', hk', heq⟩ | hnf
  · obtain ⟨hltv, hset, hlist, hsome⟩ := leaf_set_spec l lo hi k k' v ho hk' heq
    exact ⟨_, _, insertLeaf_present cfg cap l k k' v _ nid hk' heq (List.getElem?_eq_getElem hltv), ⟨hset, hlist, hsz, hsome⟩, .same rfl rfl⟩
  · obtain ⟨hput, hlist, hnone⟩ := leaf_put_spec l lo hi k v ho hk hnf
    have hlen : (insertAt l.keys (lowerBound l.keys k) k).length = l.keys.length + 1 := length_insertAt
    rw [insertLeaf_absent cfg cap l k v nid hnf]
    by_cases hfull : l.keys.length ≥ cap
    · -- full: the would-be leaf, cut in front of entry `cap / 2`
      obtain ⟨sep, hsep, he⟩ := splitLeaf_eq cfg cap hcap l k v nid _ ho.leaf_lens (Nat.le_antisymm hsz hfull)
      obtain ⟨hm0, hmc⟩ := mid_bounds hcap
      obtain ⟨hc, h4, hlt, hld, h5⟩ := leaf_cut_ins lo hi (cap / 2) sep l.id nid nid l.next hput hsep hm0
      rw [if_pos hfull, he]
      refine ⟨_, _, rfl, ⟨hc.left, hc.right, hc.inB, h4, h5.trans hlist, Nat.le_trans (Nat.le_of_eq hlt) hmc,
        Nat.le_trans (Nat.le_of_eq hld) ?_, hnone⟩, .split [] [] l.id l.next rfl rfl rfl⟩
      show (insertAt l.keys _ k).length - cap / 2 ≤ cap
      generalize cap / 2 = m at hm0
      omega
    · rw [if_neg hfull]
      exact ⟨_, _, rfl, ⟨hput, hlist, by show (insertAt l.keys _ k).length ≤ cap; rw [hlen]; exact Nat.lt_of_not_le hfull, hnone⟩, .same rfl rfl⟩

theorem insertRec_spec (cfg : Cfg) (cap : Nat) (hcap : 4 ≤ cap) :
    ∀ (h : Nat) (t : Tree K V h) (lo hi : Option Int) (k : K) (v : V) (nid : Nat),
      Ordered h t lo hi → InB lo hi (ord k) → CSized cap h t →
      ∃ res ev nid', insertRec cfg cap h t k v nid = .ok (res, ev, nid') ∧ InsPost cap h lo hi t k v res ∧
        PLinkIns (links h t) res.links nid nid' := by
  intro h
  induction h with
  | zero =>
    intro t lo hi k v nid ho hk hsz
    obtain ⟨res, ev, he, hp, hlk⟩ := insertLeaf_spec cfg cap hcap (t : Leaf K V) lo hi k v nid ho hk hsz
    refine ⟨res, ev, _, ?_, hp, hlk⟩
    unfold insertRec
    rw [he]; rfl
  | succ h ih =>
    intro t lo hi k v nid ho hk hsz
    obtain ⟨c, rt⟩ := ho.route k
    obtain ⟨cres, cev, nid1, he, hr, hlk⟩ := ih c _ _ k v nid rt.child (rt.inB hk) (hsz.children _ rt.mem)
    unfold insertRec
    simp only [routePos_eq _ _ ho.sorted, rt.get, he, Res.bind_ok]
    cases cres with
    | updated c' | inserted c' =>
      obtain ⟨hord, hlist, hsz', hlook⟩ := hr
      exact ⟨_, _, _, rfl, ⟨rt.replace1 hord, rt.replace1_toList (.insert k v) hlist, hsz.replace1 _ hsz', by rw [rt.lookup]; exact hlook⟩,
        hlk.replace1 rt.get⟩
    | split l r sep =>
      obtain ⟨hl, hr', hsepB, hstrict, hlr, hsl, hsr, hnone⟩ := hr
      simp only []
      -- the branch with the split child in place; `sep` goes in at the child's index
      obtain ⟨hb1, hpos, hb1list, hb1len, hb1sz⟩ := rt.split1 (.insert k v) ⟨hl, hr', hsepB⟩ hstrict hlr (CSized cap h) hsl hsr hsz.children
      have hb1links : PLinkIns (links (h+1) t) (links (h+1) ((t : Branch K (Tree K V h)).split1 (upperBound (Branch.keys t) k) l r sep)) nid nid1 :=
        hlk.split1 rt.get
      have hnone' : SMap.lookup (toList (h+1) t) k = none := by rw [rt.lookup]; exact hnone
      by_cases hfull : (Branch.keys t).length < cap
      · rw [insertBranch_of_lt cfg cap _ _ l r sep hfull, hpos]
        exact ⟨_, _, _, rfl, ⟨hb1, hb1list, ⟨Nat.le_trans (Nat.le_of_eq hb1len) hfull, hb1sz⟩, hnone'⟩, hb1links⟩
      · -- full: that branch, cut around key `cap / 2`
        have hn : (Branch.keys t).length = cap := Nat.le_antisymm hsz.keys_le (Nat.le_of_not_lt hfull)
        obtain ⟨pk, hpk, heq⟩ := insertBranch_of_full (V := V) cfg cap _ _ l r sep hn ho.arity rt.lt
        rw [heq, hpos]
        rw [hpos] at hpk
        obtain ⟨hm0, hmc⟩ := mid_bounds hcap
        obtain ⟨hc, h4, hlt, hld, hg⟩ := branch_cut_ins h lo hi (cap / 2) pk (Branch.id t) 0 hb1 hpk hm0
        -- no minimum and no room kept free below `cap`: both are `0` in `branch_split_sizes`
        obtain ⟨sL, sR⟩ := (branch_split_sizes 0 (Nat.zero_le _) hmc (hb1len.trans (congrArg (· + 1) hn))).2 _ _ hlt hld
        exact ⟨_, _, _, rfl, ⟨hc.left, hc.right, hc.inB, h4, hg.trans hb1list, ⟨sL.2, fun x hx => hb1sz x (List.mem_of_mem_take hx)⟩,
          ⟨sR.2, fun x hx => hb1sz x (List.mem_of_mem_drop hx)⟩, hnone'⟩, hb1links.cut _ _ _ _ _⟩

end BPT.C
