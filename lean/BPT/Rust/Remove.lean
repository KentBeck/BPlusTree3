import BPT.Rust.Rebalance
import BPT.Core.Route
/-
  `remove_recursive` does not panic, returns the erased value, the entry list becomes `SMap.erase`, and order and
  occupancy are kept; the node itself may end one key short, which the `under` flag reports to the caller (`RemPost`).
-/
namespace BPT.Rust
open BPT Tree
variable {K V : Type} [Keyed K]

structure RemPost (cap h : Nat) (t : Tree K V h) (lo hi : Option Int) (k : K) (m : Nat) (r : RemOut K V h) : Prop where
  old : r.old = (SMap.lookup (toList h t) k).map (·.2)
  list : toList h r.t = SMap.erase (toList h t) k
  ord : Ordered h r.t lo hi
  same : r.old = none → r.t = t ∧ r.under = false
  sz : Sized cap h r.t (m - 1)
  under : r.old.isSome → r.under = decide (nkeys h r.t < cap / 2)
  nk : nkeys h t ≤ nkeys h r.t + 1
  id : rootId h r.t = rootId h t

theorem removeLeaf_spec (cap : Nat) (l : Leaf K V) (lo hi : Option Int) (k : K) (m : Nat)
    (ho : Ordered 0 (l : Tree K V 0) lo hi) (hsz : Sized cap 0 (l : Tree K V 0) m) :
    ∃ r, removeLeaf cap l k = some r ∧ RemPost cap 0 (l : Tree K V 0) lo hi k m r := by
  have hsz' : m ≤ l.keys.length ∧ l.keys.length ≤ cap := hsz
  apply removeLeaf_cases (P := fun o => ∃ r, o = some r ∧ RemPost cap 0 (l : Tree K V 0) lo hi k m r)
  · intro habs
    have hnone := leaf_absent_spec l lo hi k ho habs
    exact ⟨_, rfl,
      { old := (by rw [hnone]; rfl), list := (SMap.erase_of_lookup_none k hnone).symm, ord := ho, same := fun _ => ⟨rfl, rfl⟩,
        sz := ⟨Nat.le_trans (Nat.sub_le _ _) hsz'.1, hsz'.2⟩, under := fun h => (by cases h), nk := Nat.le_succ _, id := rfl }⟩
  · intro k' hk' he hv
    have := (leaf_remove_spec l lo hi k k' ho hk' he).1
    rw [List.getElem?_eq_none_iff] at hv
    exact absurd this (Nat.not_lt.2 hv)
  · intro k' v hk' he hv
    obtain ⟨hlt, hord, hlist, hlen, _⟩ := leaf_remove_spec l lo hi k k' ho hk' he
    refine ⟨_, rfl,
      { old := ?_, list := hlist, ord := hord, same := fun h => (by cases h), sz := ?_, under := fun _ => ?_,
        nk := Nat.le_of_eq hlen.symm, id := rfl }⟩
    · obtain ⟨v0, hv0, hlook⟩ := leaf_present_spec l lo hi k k' ho hk' he
      rw [hlook, Option.some.inj (hv0.symm.trans hv)]; rfl
    · show m - 1 ≤ (removeAt l.keys _).length ∧ (removeAt l.keys _).length ≤ cap
      rw [← hlen] at hsz'
      exact ⟨Nat.sub_le_of_le_add hsz'.1, Nat.le_of_succ_le hsz'.2⟩
    · show isUnderfull cap (l.keys.length - 1) = decide ((removeAt l.keys _).length < cap / 2)
      rw [← hlen, Nat.add_sub_cancel]; rfl

/-- `h = 0 ∨ 1 ≤ m`: a branch holds a key, so a child that comes back short has a sibling (`Short.nk`) -/
theorem removeRec_spec (cap : Nat) (hcap : 4 ≤ cap) :
    ∀ (h : Nat) (t : Tree K V h) (lo hi : Option Int) (k : K) (al : Allocs) (m : Nat),
      Ordered h t lo hi → Sized cap h t m → (h = 0 ∨ 1 ≤ m) →
      ∃ r al', removeRec cap h t k al = some (r, al') ∧ RemPost cap h t lo hi k m r := by
  intro h
  induction h with
  | zero =>
    intro t lo hi k al m ho hsz _
    obtain ⟨r, he, hr⟩ := removeLeaf_spec cap (t : Leaf K V) lo hi k m ho hsz
    exact ⟨r, al, by rw [removeRec_zero, he]; rfl, hr⟩
  | succ h ih =>
    intro t lo hi k al m ho hsz hm
    have hm1 : 1 ≤ m := hm.resolve_left (Nat.succ_ne_zero h)
    obtain ⟨c, rt⟩ := ho.route k
    obtain ⟨r, al1, he, hr⟩ := ih c _ _ k al (cap/2) rt.child (hsz.children c rt.mem) (Or.inr (half_pos hcap))
    rw [removeRec_succ rt.get he]
    -- `b1`: the branch with the routed child put back
    have hb1o := rt.replace1 hr.ord
    have hb1l := rt.replace1_toList (SMap.Local.erase k) hr.list
    have hold : r.old = (SMap.lookup (toList (h+1) t) k).map (·.2) := by rw [rt.lookup]; exact hr.old
    have hsz1 : Sized cap (h+1) t (m - 1) := hsz.mono (Nat.sub_le _ _)
    by_cases hu : r.old.isSome ∧ r.under
    · -- the child is one key short: `b1`, with it put back, is `Short` there and is rebalanced
      rw [if_pos hu]
      have hlt : nkeys h r.t < cap / 2 := of_decide_eq_true (hr.under hu.1 ▸ hu.2)
      have hocc := (sized_iff_occ cap (h+1) t m).1 hsz
      have hshort := Short.of_replace1 (half_pos hcap) (Nat.mul_div_le cap 2) hocc hm1 rt.lt hb1o ((sized_iff_occ cap h _ _).1 hr.sz) hlt
      obtain ⟨b2, al2, hreb, hmended⟩ := rebalance_short cap h _ _ al1 lo hi hshort
      rw [hreb]
      exact ⟨_, _, rfl,
        { old := hold, list := hmended.list.trans hb1l, ord := hmended.ord, same := fun hn => (by rw [hn] at hu; cases hu.1),
          sz := (sized_iff_occ cap (h+1) _ _).2 (hmended.occ hocc.1 hocc.2.1),
          under := fun _ => rfl, nk := hmended.k1, id := hmended.id }⟩
    · -- the child comes back as it was or still at the minimum: `b1` stays
      rw [if_neg hu]
      have hcs : Sized cap h r.t (cap / 2) := by
        cases hro : r.old with
        | none => rw [(hr.same hro).1]; exact hsz.children c rt.mem
        | some v =>
          have hs : r.old.isSome := by rw [hro]; rfl
          exact hr.sz.raise (Nat.le_of_not_lt fun hlt => hu ⟨hs, (hr.under hs).trans (decide_eq_true hlt)⟩)
      exact ⟨_, _, rfl,
        { old := hold, list := hb1l, ord := hb1o,
          same := fun hn => ⟨by rw [(hr.same hn).1]; exact Branch.replace1_self rt.get, by rw [hn]; rfl⟩,
          sz := hsz1.replace1 _ hcs, under := fun hs => if_pos hs, nk := Nat.le_succ _, id := rfl }⟩

end BPT.Rust
