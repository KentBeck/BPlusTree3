import BPT.Rust.DetailedSound
/-
  Branch side of the detailed validator's soundness: a tree walk that lists no leaf twice visits no branch
  twice (it would bring its leaves twice), so equal counts mean every allocated branch is visited.
-/
namespace BPT.Rust
open BPT RawMap
variable {K V : Type} [Keyed K]

theorem map_ok_inj {α : Type} {a b : List α} (h : a.map Res.ok = b.map Res.ok) : a = b := by
  induction a generalizing b with
  | nil => cases b with
    | nil => rfl
    | cons _ _ => simp at h
  | cons x a ih => cases b with
    | nil => simp at h
    | cons y b =>
      simp only [List.map_cons, List.cons.injEq, Res.ok.injEq] at h
      rw [h.1, ih h.2]

/-- what each visited branch `x` brings along -/
def Brings (m : RawMap K V) (L B : List Nat) (x : Nat) : Prop :=
  ∃ g Lx Bx, m.leafIdsFrom g (.branch x) = .ok Lx ∧ branchIdsFrom m g (.branch x) = .ok Bx ∧
    Lx ≠ [] ∧ (∀ y ∈ Lx, y ∈ L) ∧ Bx.length ≤ B.length

variable {m : RawMap K V}

theorem Walk.branches_nodup (hc : CapsOK m) {f : Nat} {n : NodeRef} {L B : List Nat} (hw : Walk m f n L B) :
    ∀ {lo hi : Option K} {r : Bool}, NodeOK m n lo hi r → L.Nodup →
      B.Nodup ∧ (∀ x ∈ B, m.branches.maskAt x = true) ∧ (∀ x ∈ B, Brings m L B x) := by
  induction hw with
  | leaf f id => intro _ _ _ _ _; exact ⟨List.nodup_nil, nofun, nofun⟩
  | dangling f id hg => intro _ _ _ _ _; exact ⟨List.nodup_nil, nofun, nofun⟩
  | branch f id b gl gb hg hch ih =>
    intro lo hi r hok hnd
    have hw := Walk.branch f id b gl gb hg hch
    obtain ⟨hndc, hdisj⟩ := List.pairwise_flatMap.1 hnd
    have hchild : ∀ c ∈ b.children, (gb c).Nodup ∧ (∀ x ∈ gb c, m.branches.maskAt x = true) ∧
        ∀ x ∈ gb c, Brings m (gl c) (gb c) x := fun c hcm =>
      let ⟨i, hi⟩ := List.getElem?_of_mem hcm
      ih c hcm (hok.child hg hi) (hndc c hcm)
    have hbrings : ∀ c (hcm : c ∈ b.children), ∀ x ∈ gb c, Brings m (gl c) (gb c) x := fun c hcm => (hchild c hcm).2.2
    refine ⟨List.nodup_cons.2 ⟨?_, List.pairwise_flatMap.2 ⟨fun c hcm => (hchild c hcm).1, hdisj.imp_of_mem ?_⟩⟩, ?_, ?_⟩
    · -- the branch itself is not met again below it: that walk would be as long as the whole
      intro hmem
      obtain ⟨c, hcm, hx⟩ := List.mem_flatMap.1 hmem
      obtain ⟨g, Lx, Bx, hlx, hbx, _, _, hlen⟩ := hbrings c hcm id hx
      rw [(hw.det (Walk.iff.2 ⟨hlx, hbx⟩)).2, List.length_cons] at hlen
      have := length_le_flatMap gb hcm
      omega
    · -- a branch met under two children brings the same leaves under both
      intro c c' hcm hcm' hcc' x hx y hy hxy
      subst hxy
      obtain ⟨g, Lx, Bx, hlx, hbx, hne, hsub, _⟩ := hbrings c hcm x hx
      obtain ⟨g', Lx', Bx', hlx', hbx', _, hsub', _⟩ := hbrings c' hcm' x hy
      cases ((Walk.iff.2 ⟨hlx, hbx⟩).det (Walk.iff.2 ⟨hlx', hbx'⟩)).1
      obtain ⟨y, hy⟩ := List.exists_mem_of_ne_nil _ hne
      exact hcc' y (hsub y hy) y (hsub' y hy) rfl
    · intro x hx
      rcases List.mem_cons.1 hx with rfl | hx
      · obtain ⟨_, _, hmask, _⟩ := Arena.get_eq_some hg
        exact hmask
      · obtain ⟨c, hcm, hx⟩ := List.mem_flatMap.1 hx
        exact (hchild c hcm).2.1 x hx
    · intro x hx
      rcases List.mem_cons.1 hx with rfl | hx
      · exact ⟨f+1, _, _, hw.leafIds, hw.branchIds, (hw.leavesOK hc hok).ne, fun _ hy => hy, Nat.le_refl _⟩
      · obtain ⟨c, hcm, hx⟩ := List.mem_flatMap.1 hx
        obtain ⟨g, Lx, Bx, a1, a2, a3, a4, a5⟩ := hbrings c hcm x hx
        have := length_le_flatMap gb hcm
        exact ⟨g, Lx, Bx, a1, a2, a3, fun y hy => List.mem_flatMap.2 ⟨c, hcm, a4 y hy⟩, by rw [List.length_cons]; omega⟩

/-- no branch is visited twice when no leaf is listed twice -/
theorem branchIds_nodup (m : RawMap K V) (hc : CapsOK m) : ∀ (f : Nat) (n : NodeRef) (lo hi : Option K) (r : Bool) (L B : List Nat),
    m.leafIdsFrom f n = .ok L → branchIdsFrom m f n = .ok B → NodeOK m n lo hi r → L.Nodup →
    B.Nodup ∧ (∀ x ∈ B, m.branches.maskAt x = true) ∧ (∀ x ∈ B, Brings m L B x) :=
  fun _ _ _ _ _ _ _ hL hB => (Walk.iff.2 ⟨hL, hB⟩).branches_nodup hc

/-- every allocated branch is reachable, given what the stages establish -/
theorem branches_reachable (m : RawMap K V) (hc : CapsOK m) (hroot : NodeOK m m.root none none true)
    (cnt : Nat × Nat) (hcnt : m.countNodes = .ok cnt) (hcb : cnt.2 = m.branches.len)
    (tids : List Nat) (htids : m.leafIds = .ok tids) (hnd : tids.Nodup) :
    ∀ i, m.branches.maskAt i = true → ∃ r, Reach m (.branch i) r := by
  intro i hi
  obtain ⟨B, hw⟩ := Walk.of_leafIds htids
  obtain ⟨h1, h2, _⟩ := hw.branches_nodup hc hroot hnd
  cases hw.countNodes_top hcnt
  exact (hw.reach .root).2 i (covers_allocated m.branches B h1 h2 hcb i hi)

theorem leaves_reachable (m : RawMap K V) (tids : List Nat) (htids : m.leafIds = .ok tids) :
    ∀ i ∈ tids, ∃ r, Reach m (.leaf i) r :=
  let ⟨_, hw⟩ := Walk.of_leafIds htids; (hw.reach .root).1

end BPT.Rust
