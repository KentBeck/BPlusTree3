import BPT.Generated.Source
import BPT.Py.Model
/-
  Tie lemmas for the pure-Python model: what tools/extract_py.py regenerated from python/bplustree/bplus_tree.py
  equals what BPT/Py/Model.lean and (the `py_api_*` lemmas) BPT/Py/Api.lean were transcribed from.  Arithmetic
  policy is compared as functions; control flow (order of sibling attempts, guards of merges, how `get` decides
  presence, ...) as the normalised source text the model was written against, so an edit of any of these
  functions breaks an obligation here.
-/
namespace BPT.TiePy
open BPT BPT.Generated

theorem py_min_capacity : py_MIN_CAPACITY = Py.minCapacity := rfl
theorem py_ctor_rejects_eq (c : Nat) : py_ctor_rejects c = decide (c < Py.minCapacity) := rfl
theorem py_leaf_is_full_eq (cap n : Nat) : py_leaf_is_full cap n = Py.isFull cap n := rfl
theorem py_branch_is_full_eq (cap n : Nat) : py_branch_is_full cap n = Py.isFull cap n := rfl
theorem py_leaf_is_underfull_eq (cap n : Nat) : py_leaf_is_underfull cap n = Py.isUnderfull cap n := rfl
theorem py_branch_is_underfull_eq (cap n : Nat) : py_branch_is_underfull cap n = Py.isUnderfull cap n := rfl
theorem py_leaf_can_donate_eq (cap n : Nat) : py_leaf_can_donate cap n = Py.canDonate cap n := rfl
theorem py_branch_can_donate_eq (cap n : Nat) : py_branch_can_donate cap n = Py.canDonate cap n := rfl
theorem py_leaf_split_mid_eq (n : Nat) : py_leaf_split_mid n = Py.splitMid n := rfl
theorem py_branch_split_mid_eq (n : Nat) : py_branch_split_mid n = Py.splitMid n := rfl

/-! ### repaired-defect switches (`Cfg.repaired`) are what the code does now -/
theorem py_get_checks_presence_eq : py_get_checks_presence = Py.Cfg.repaired.getChecksPresence := rfl
theorem py_empty_shortcut_leaf_only_eq : py_empty_shortcut_leaf_only = Py.Cfg.repaired.emptyShortcutLeafOnly := rfl
/-- D7: `__len__` is a loop over the chain (the model's `len` is a fold over `chain`) -/
theorem py_len_iterative_eq : py_len_iterative = true := rfl

/-! ### the source text the model was transcribed from -/

theorem py_leaf_split_shape_eq : py_leaf_split_shape =
    "mid = len(self.keys) // 2 ; new_leaf = LeafNode(self.capacity) ; new_leaf.keys = self.keys[mid:] ; new_leaf.values = self.values[mid:] ; self.keys = self.keys[:mid] ; self.values = self.values[:mid] ; new_leaf.next = self.next ; self.next = new_leaf" := rfl
theorem py_leaf_split_side_eq : py_leaf_split_side =
    "key < new_leaf.keys[0] ? self.insert(key, value) : new_leaf.insert(key, value)" := rfl
theorem py_leaf_split_ret_eq : py_leaf_split_ret =
    "(new_leaf, new_leaf.keys[0])" := rfl
theorem py_branch_split_shape_eq : py_branch_split_shape =
    "mid = len(self.keys) // 2 ; new_branch = BranchNode(self.capacity) ; separator_key = self.keys[mid] ; new_branch.keys = self.keys[mid + 1:] ; new_branch.children = self.children[mid + 1:] ; self.keys = self.keys[:mid] ; self.children = self.children[:mid + 1] ; return (new_branch, separator_key)" := rfl
theorem py_branch_insert_shape_eq : py_branch_insert_shape =
    "self.keys.insert(child_index, separator_key) ; self.children.insert(child_index + 1, new_child) ; if not self.is_full(): return None ; return self.split()" := rfl
theorem py_leaf_find_position_eq : py_leaf_find_position =
    "pos = bisect.bisect_left(self.keys, key) ; exists = pos < len(self.keys) and self.keys[pos] == key ; return (pos, exists)" := rfl
theorem py_branch_find_child_eq : py_branch_find_child =
    "bisect.bisect_right(self.keys, key)" := rfl
theorem py_insert_into_leaf_tests_eq : py_insert_into_leaf_tests =
    "exists ; not leaf.is_full()" := rfl
theorem py_delete_tests_eq : py_delete_tests =
    "node.is_leaf() ; not deleted ; len(child) == 0 or child.is_underfull() ; node == self.root and (not node.is_leaf()) and (len(node.children) == 1)" := rfl
theorem py_underflow_tests_eq : py_underflow_tests =
    "not child.is_underfull() ; len(child) == 0 and child.is_leaf() ; child_index < len(parent.children) - 1 ; not redistributed and child_index > 0 ; not redistributed ; right_sibling.can_donate() ; left_sibling.can_donate()" := rfl
theorem py_underflow_calls_eq : py_underflow_calls =
    "self._merge_with_sibling ; self._merge_with_sibling ; self._redistribute_from_right ; self._redistribute_from_left" := rfl
theorem py_merge_guards_eq : py_merge_guards =
    "total_keys <= self.capacity ; total_keys <= self.capacity and total_children <= self.capacity + 1 ; total_keys <= self.capacity ; total_keys <= self.capacity and total_children <= self.capacity + 1" := rfl
theorem py_merge_totals_eq : py_merge_totals =
    "len(left_sibling.keys) + len(child.keys) ; len(left_sibling.keys) + len(child.keys) + 1 ; len(child.keys) + len(right_sibling.keys) ; len(child.keys) + len(right_sibling.keys) + 1 ; len(left_sibling.children) + len(child.children) ; len(child.children) + len(right_sibling.children)" := rfl
theorem py_merge_side_tests_eq : py_merge_side_tests =
    "child_index >= len(parent.children) ; len(parent.keys) != len(parent.children) - 1 ; child_index > 0" := rfl
theorem py_redistribute_from_left_sep_eq : py_redistribute_from_left_sep =
    "parent.keys[child_index - 1] = child.keys[0] ; parent.keys[child_index - 1] = new_separator" := rfl
theorem py_redistribute_from_right_sep_eq : py_redistribute_from_right_sep =
    "parent.keys[child_index] = right_sibling.keys[0] ; parent.keys[child_index] = new_separator" := rfl
theorem py_leafnode_borrow_from_left_eq : py_leafnode_borrow_from_left =
    "key = left_sibling.keys.pop() ; value = left_sibling.values.pop() ; self.keys.insert(0, key) ; self.values.insert(0, value)" := rfl
theorem py_leafnode_borrow_from_right_eq : py_leafnode_borrow_from_right =
    "key = right_sibling.keys.pop(0) ; value = right_sibling.values.pop(0) ; self.keys.append(key) ; self.values.append(value)" := rfl
theorem py_leafnode_merge_with_right_eq : py_leafnode_merge_with_right =
    "self.keys.extend(right_sibling.keys) ; self.values.extend(right_sibling.values) ; self.next = right_sibling.next" := rfl
theorem py_branchnode_borrow_from_left_eq : py_branchnode_borrow_from_left =
    "self.keys.insert(0, separator_key) ; child = left_sibling.children.pop() ; self.children.insert(0, child) ; return left_sibling.keys.pop()" := rfl
theorem py_branchnode_borrow_from_right_eq : py_branchnode_borrow_from_right =
    "self.keys.append(separator_key) ; child = right_sibling.children.pop(0) ; self.children.append(child) ; return right_sibling.keys.pop(0)" := rfl
theorem py_branchnode_merge_with_right_eq : py_branchnode_merge_with_right =
    "self.keys.append(separator_key) ; self.keys.extend(right_sibling.keys) ; self.children.extend(right_sibling.children)" := rfl
theorem py_get_return_eq : py_get_return =
    "node.values[pos] if exists else default" := rfl
theorem py_items_tests_eq : py_items_tests =
    "start_key is None ; current is not None ; current is None ; end_key is not None and key >= end_key" := rfl
theorem py_items_for_eq : py_items_for =
    "range(start_index, len(current.keys))" := rfl
theorem py_find_position_in_leaf_tests_eq : py_find_position_in_leaf_tests =
    "left < right ; key <= leaf.keys[mid]" := rfl
theorem py_sorted_fast_test_eq : py_sorted_fast_test =
    "self._rightmost_leaf_cache and self._rightmost_leaf_cache.keys and (key > self._rightmost_leaf_cache.keys[-1]) and (not self._rightmost_leaf_cache.is_full())" := rfl
theorem py_sorted_fast_body_eq : py_sorted_fast_body =
    "self._rightmost_leaf_cache.keys.append(key) ; self._rightmost_leaf_cache.values.append(value) ; return" := rfl
theorem py_setitem_shape_eq : py_setitem_shape =
    "result = self._insert_recursive(self.root, key, value) ; new_node, separator_key = result ; new_root = BranchNode(self.capacity) ; new_root.keys.append(separator_key) ; new_root.children.append(self.root) ; new_root.children.append(new_node) ; self.root = new_root" := rfl
theorem py_api_pop_eq : py_api_pop =
    "if len(args) > 1: raise TypeError(f'pop expected at most 2 arguments, got {len(args) + 1}') ; try: value = self[key] del self[key] return value except KeyError: if args: return args[0] raise" := rfl
theorem py_api_popitem_eq : py_api_popitem =
    "if len(self) == 0: raise KeyError('popitem(): tree is empty') ; first_leaf = self.leaves ; if len(first_leaf.keys) == 0: raise KeyError('popitem(): tree is empty') ; key = first_leaf.keys[0] ; value = first_leaf.values[0] ; del self[key] ; return (key, value)" := rfl
theorem py_api_setdefault_eq : py_api_setdefault =
    "try: return self[key] except KeyError: self[key] = default return default" := rfl
theorem py_api_copy_eq : py_api_copy =
    "new_tree = BPlusTreeMap(capacity=self.capacity) ; for key, value in self.items(): new_tree[key] = value ; return new_tree" := rfl
theorem py_api_clear_eq : py_api_clear =
    "original = LeafNode(self.capacity) ; self.leaves = original ; self.root = original ; self._rightmost_leaf_cache = None" := rfl
theorem py_api_getitem_eq : py_api_getitem =
    "value = self.get(key) ; if value is None: if key in self: return None raise KeyError(key) ; return value" := rfl
theorem py_api_contains_eq : py_api_contains =
    "node = self.root ; while not node.is_leaf(): node = node.get_child(key) ; pos, exists = node.find_position(key) ; return exists" := rfl
theorem py_api_delitem_eq : py_api_delitem =
    "deleted = self._delete_recursive(self.root, key) ; if not deleted: raise KeyError(key)" := rfl
theorem py_api_bool_eq : py_api_bool =
    "return len(self) > 0" := rfl

end BPT.TiePy
