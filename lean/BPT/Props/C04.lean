import BPT.Props.C02
import BPT.Rust.ValidatorComplete
/-
  C04 — Rust tree stays a valid, balanced B+ tree after every mutation.

  `SInv` (preserved by every mutator, `C02.reachable_sinv`) is the conjunction:
  `Inv.ord`  — keys of every node strictly ascending, arity, every key of child i in [separator i-1, separator i);
  `Inv.sz`   — every node ≤ capacity keys, every non-root node ≥ capacity/2, a branch root ≥ 1 key;
  `chain`    — the `next` links of the leaves, in tree order, form a chain ending in NULL;
  `leafIds`/`branchIds` — see C06.
  "All leaves at the same depth" is intrinsic to the height-indexed tree type; it is made explicit below.
-/
namespace BPT.Props.C04
open BPT BPT.Rust Tree

variable {K V : Type} [Keyed K]

/-- depth of every leaf below a node at depth `d` -/
def leafDepths : (h : Nat) → Tree K V h → Nat → List Nat
  | 0, _, d => [d]
  | h+1, (b : Branch K (Tree K V h)), d => b.children.flatMap (fun c => leafDepths h c (d+1))

theorem all_leaves_same_depth : ∀ (h : Nat) (t : Tree K V h) (d : Nat), ∀ x ∈ leafDepths h t d, x = d + h :=
  leafDepths_eq leafDepths (fun _ _ => rfl) (fun _ _ _ => rfl)

/-- every state reachable by insert / remove / get_mut writes / clear from `new(cap)`, `cap ≥ 4`, is valid -/
theorem reachable_valid (cap : Nat) (hcap : 4 ≤ cap) (ops : List (C01.Op K V)) (s' : RState K V)
    (h : (ops.foldl (fun (acc : Option (RState K V)) op => acc.bind fun s => (C01.step s op).map (·.1))
      (some (freshState cap))) = some s') : SInv s' :=
  C02.reachable_sinv ops (freshState cap) (sinv_fresh cap hcap) s' h

/-- a branch root has at least two children -/
theorem root_branch_two_children (s : RState K V) (hi : Inv s) (h : Nat) (hh : s.height = h + 1) :
    2 ≤ (Branch.children (hh ▸ s.root : Tree K V (h+1))).length := by
  obtain ⟨cap, height, root, al⟩ := s
  simp only at hh
  subst hh
  exact hi.ord.children_gt_keys (m := 1) hi.sz.1

/-- the node-level clauses, for any node reachable as `children[i]` -/
theorem node_clauses (cap h : Nat) (b : Branch K (Tree K V h)) (lo hi : Option Int) (m : Nat)
    (ho : Ordered (h+1) (b : Tree K V (h+1)) lo hi) (hs : Sized cap (h+1) (b : Tree K V (h+1)) m) :
    KSorted b.keys ∧ b.children.length = b.keys.length + 1 ∧ b.keys.length ≤ cap ∧
    (∀ i c, b.children[i]? = some c → Ordered h c (loAt b.keys lo i) (hiAt b.keys hi i) ∧ Sized cap h c (cap/2) ∧
      cap / 2 ≤ nkeys h c ∧ nkeys h c ≤ cap) := by
  refine ⟨ho.sorted, ho.arity, hs.2.1, ?_⟩
  intro i c hc
  have hsz := hs.2.2 c (List.mem_of_getElem? hc)
  exact ⟨ho.child hc, hsz, (sized_nkeys cap h c _ hsz).1, (sized_nkeys cap h c _ hsz).2⟩

/-- the chain from the leftmost leaf visits exactly the tree's leaves, left to right, and then ends -/
theorem chain_is_leaves (s : RState K V) (hs : SInv s) (hsm : Small s) :
    RawChain (view s) s.cap (leaves s.height s.root) (firstOf (links s.height s.root) nullId) ∧
    (view s).firstLeaf = .ok ((leaves s.height s.root).head?.map (·.id)) :=
  ⟨view_chain s hs hsm, view_firstLeaf s hs hsm⟩

/-- a non-root subtree of height `h` holds at least `(cap/2)·(cap/2+1)^h` entries -/
theorem min_entries (cap : Nat) : ∀ (h : Nat) (t : Tree K V h) (lo hi : Option Int),
    Ordered h t lo hi → Sized cap h t (cap/2) → (cap/2) * (cap/2 + 1)^h ≤ (toList h t).length := by
  intro h
  induction h with
  | zero =>
    intro t lo hi ho hs
    rw [toList_zero]
    have h1 : (t : Leaf K V).keys.length = (t : Leaf K V).vals.length := ho.leaf_lens
    have h2 : cap / 2 ≤ (t : Leaf K V).keys.length := hs.1
    rw [Leaf.entries, List.length_zip, ← h1, Nat.min_self, Nat.pow_zero, Nat.mul_one]
    exact h2
  | succ h ih =>
    intro t lo hi ho hs
    -- at least `cap/2 + 1` children, each with the bound for height `h`
    have : (cap/2 + 1) * ((cap/2) * (cap/2 + 1)^h) ≤ (toList (h+1) t).length :=
      branch_entries h t lo hi _ ho hs.1 fun c hc =>
        let ⟨_, _, hco⟩ := ho.child_of_mem hc; ih c _ _ hco (hs.2.2 c hc)
    rw [Nat.pow_succ, ← Nat.mul_assoc, Nat.mul_comm]
    exact this

/-- height is logarithmic: a map of height `h+1` holds at least `2·(cap/2)·(cap/2+1)^h` entries, so every lookup
    descends `O(log n)` nodes -/
theorem height_log (s : RState K V) (hi : Inv s) (h : Nat) (hh : s.height = h + 1) :
    2 * ((s.cap/2) * (s.cap/2 + 1)^h) ≤ (abs s).length := by
  obtain ⟨cap, height, root, al⟩ := s
  simp only at hh
  subst hh
  have hz : Sized cap (h+1) root 1 := hi.sz
  -- a branch root has at least one key, so `1 + 1` children, each a non-root subtree of height `h`
  exact branch_entries h root none none 1 hi.ord hz.1 fun c hc =>
    let ⟨_, _, hco⟩ := hi.ord.child_of_mem hc; min_entries cap h c _ _ hco (hz.2.2 c hc)

-- non-vacuity of `height_log`
example : ((List.range 40).foldl (fun (acc : Option (RState Int Nat)) i => acc.bind fun s => (insert s (Int.ofNat i) i).map (·.1))
    (some (freshState 4))).map (fun s => (s.height, (abs s).length)) = some (3, 40) := by decide +kernel

/-- `check_invariants()` and `check_invariants_detailed()` / `validate()` accept every valid state -/
theorem validators_accept (s : RState K V) (hs : SInv s) (hsm : Small s) :
    (view s).checkInvariants Cfg.repaired = .ok true ∧ (view s).checkDetailed Cfg.repaired = .ok none :=
  ⟨view_checkInvariants s hs hsm, view_checkDetailed s hs hsm⟩

end BPT.Props.C04
