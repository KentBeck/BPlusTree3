import BPT.Py.InsertLeaf
import BPT.Core.Occupancy
import BPT.Py.Inv
/-
  `_insert_recursive` of the pure-Python map: order, contents, occupancy (`PSized`) and the effect on the
  leaf chain, in one induction.
-/
namespace BPT.Py
open BPT Tree
open BPT.Rust (links links_succ links_zero ChainL firstOf)
variable {K V : Type} [Keyed K]

def InsRes.links {h : Nat} : InsRes K V h → List (Nat × Nat)
  | .updated t => Rust.links h t
  | .split a b _ => Rust.links h a ++ Rust.links h b

/-- postcondition of `_insert_recursive` on a subtree `t` -/
def InsPost (cap h : Nat) (lo hi : Option Int) (t : Tree K V h) (k : K) (v : V) (m : Nat) : InsRes K V h → Prop
  | .updated t' => Ordered h t' lo hi ∧ toList h t' = SMap.insert (toList h t) k v ∧ PSized cap h t' m
  | .split a b sep => Ordered h a lo (some (ord sep)) ∧ Ordered h b (some (ord sep)) hi ∧ InB lo hi (ord sep) ∧
      (∀ x, lo = some x → x < ord sep) ∧ toList h a ++ toList h b = SMap.insert (toList h t) k v ∧
      PSized cap h a (minKeys cap) ∧ PSized cap h b (minKeys cap)

theorem insertLeaf_spec (cap : Nat) (hcap : 4 ≤ cap) (l : Leaf K V) (lo hi : Option Int) (k : K) (v : V) (nid m : Nat)
    (ho : Ordered 0 (l : Tree K V 0) lo hi) (hk : InB lo hi (ord k)) (hsz : PSized cap 0 (l : Tree K V 0) m) :
    ∃ res b, insertLeaf cap l k v nid = some (res, b) ∧ InsPost cap 0 lo hi (l : Tree K V 0) k v m res ∧
      PLinkIns (links 0 (l : Tree K V 0)) res.links nid (if b then nid + 1 else nid) := by
  obtain ⟨hm1, hm2⟩ := hsz
  rcases lowerBound_hit_or_miss l.keys k with ⟨k', hk', heq⟩ | hnf
  · obtain ⟨hltv, hso, hsl, _⟩ := leaf_set_spec l lo hi k k' v ho hk' heq
    exact ⟨_, _, insertLeaf_present cap l k k' v nid hk' heq hltv, ⟨hso, hsl, hm1, hm2⟩, .same rfl rfl⟩
  · obtain ⟨hpo, hpl, _⟩ := leaf_put_spec l lo hi k v ho hk hnf
    have hElen : (insertAt l.keys (lowerBound l.keys k) k).length = l.keys.length + 1 :=
      length_insertAt
    rw [insertLeaf_absent cap l k v nid hnf]
    by_cases hroom : l.keys.length < cap
    · rw [if_pos hroom]
      exact ⟨_, _, rfl, ⟨hpo, hpl, Nat.le_trans (Nat.le_succ_of_le hm1) (Nat.le_of_eq hElen.symm),
        Nat.le_trans (Nat.le_of_eq hElen) hroom⟩, .same rfl rfl⟩
    · rw [if_neg hroom]
      have hn : l.keys.length = cap := Nat.le_antisymm hm2 (Nat.le_of_not_lt hroom)
      obtain ⟨mid, sep, h1, h2, hsep, he⟩ := splitLeafInsert_eq l k v nid ho.leaf_sorted ho.leaf_lens (hn ▸ Nat.lt_of_lt_of_le (by decide) hcap) hnf
      rw [hn] at h1 h2 hElen
      -- the cut `mid` is `cap / 2` or `cap / 2 + 1` (`h1`, `h2`); either leaves at least `minKeys cap` of the `cap + 1`
      -- entries on each side
      obtain ⟨hk2, hk4⟩ := minKeys_half cap hcap
      obtain ⟨_, hpos, _, sizes⟩ := leaf_split_sizes (cap := cap) (minKeys_bounds cap hcap).1 hk2 (Nat.le_of_succ_le hk4) ⟨h1, h2⟩
      obtain ⟨hc, hstrict, hlenL, hlenR, hcut⟩ := leaf_cut_ins lo hi mid sep l.id nid nid l.next hpo hsep hpos
      obtain ⟨sL, sR⟩ := sizes _ _ hlenL (hlenR.trans (congrArg (· - mid) hElen)) (Nat.le_refl _)
      rw [he]
      exact ⟨_, _, rfl, ⟨hc.left, hc.right, hc.inB, hstrict, hcut.trans hpl, sL, sR⟩, .split [] [] l.id l.next rfl rfl rfl⟩

omit [Keyed K] in
theorem branchInsertSplit_eq {α : Type} (cap : Nat) (b : Branch K α) (i : Nat) (l r : α) (sep : K) :
    branchInsertSplit cap b i l r sep =
      if b.keys.length + 1 < cap then some (.inl (b.split1 i l r sep))
      else ((b.split1 i l r sep).keys[(b.keys.length + 1) / 2]?).map fun pk =>
        .inr ({ id := b.id, keys := (b.split1 i l r sep).keys.take ((b.keys.length + 1) / 2),
                children := (b.split1 i l r sep).children.take ((b.keys.length + 1) / 2 + 1) },
              { id := 0, keys := (b.split1 i l r sep).keys.drop ((b.keys.length + 1) / 2 + 1),
                children := (b.split1 i l r sep).children.drop ((b.keys.length + 1) / 2 + 1) }, pk) := by
  unfold branchInsertSplit
  simp only [isFull, splitMid, decide_eq_true_eq, Nat.not_le, length_insertAt]
  split
  · rfl
  · show _ = Option.map _ ((insertAt b.keys i sep)[(b.keys.length + 1) / 2]?)
    cases (insertAt b.keys i sep)[(b.keys.length + 1) / 2]? <;> rfl

theorem insertRec_succ (cap h : Nat) (b : Branch K (Tree K V h)) (k : K) (v : V) (nid nid1 : Nat) (c : Tree K V h)
    (cres : InsRes K V h) (hlen : b.children.length = b.keys.length + 1)
    (hc : b.children[upperBound b.keys k]? = some c) (hrec : insertRec cap h c k v nid = some (cres, nid1)) :
    insertRec cap (h+1) (b : Tree K V (h+1)) k v nid =
      match cres with
      | .updated c' => some (.updated (b.replace1 (upperBound b.keys k) c' : Tree K V (h+1)), nid1)
      | .split l r sep =>
        match branchInsertSplit cap b (upperBound b.keys k) l r sep with
        | none => none
        | some (.inl b') => some (.updated (b' : Tree K V (h+1)), nid1)
        | some (.inr (bl, br, pk)) => some (.split (bl : Tree K V (h+1)) br pk, nid1) := by
  unfold insertRec
  simp only [arity_guard hlen, if_false, hc, hrec]
  cases cres <;> rfl

theorem insertRec_spec (cap : Nat) (hcap : 4 ≤ cap) :
    ∀ (h : Nat) (t : Tree K V h) (lo hi : Option Int) (k : K) (v : V) (nid m : Nat),
      Ordered h t lo hi → InB lo hi (ord k) → PSized cap h t m → m ≤ minKeys cap →
      ∃ res nid', insertRec cap h t k v nid = some (res, nid') ∧ InsPost cap h lo hi t k v m res ∧
        PLinkIns (links h t) res.links nid nid' := by
  intro h
  induction h with
  | zero =>
    intro t lo hi k v nid m ho hk hsz hm
    obtain ⟨res, b, he, hp, hlk⟩ := insertLeaf_spec cap hcap (t : Leaf K V) lo hi k v nid m ho hk hsz
    exact ⟨res, _, by unfold insertRec; rw [he]; rfl, hp, hlk⟩
  | succ h ih =>
    intro t lo hi k v nid m ho hk hsz hm
    obtain ⟨c, rt⟩ := ho.route k
    obtain ⟨hz1, hz2, hz3⟩ := hsz
    obtain ⟨cres, nid1, he, hr, hlk⟩ := ih c _ _ k v nid (minKeys cap) rt.child (rt.inB hk) (hz3 c rt.mem) (Nat.le_refl _)
    rw [insertRec_succ cap h t k v nid nid1 c cres ho.arity rt.get he]
    cases cres with
    | updated c' =>
      obtain ⟨hr1, hr2, hr3⟩ := hr
      exact ⟨_, _, rfl, ⟨rt.replace1 hr1, rt.replace1_toList (.insert k v) hr2, PSized.replace1 ⟨hz1, hz2, hz3⟩ _ hr3⟩, .replace1 rt.get hlk⟩
    | split l r sep =>
      obtain ⟨hl, hr', hsepB, hstrict, hlr, hsl, hsr⟩ := hr
      obtain ⟨g1, _, g2, ht1len, g3⟩ := rt.split1 (.insert k v) ⟨hl, hr', hsepB⟩ hstrict hlr (PSized cap h · (minKeys cap)) hsl hsr hz3
      have g4 : PLinkIns (links (h+1) t) (links (h+1) ((t : Branch K (Tree K V h)).split1 (upperBound (Branch.keys t) k) l r sep)) nid nid1 :=
        .split1 rt.get hlk
      simp only [branchInsertSplit_eq cap t _ l r sep]
      by_cases hroom : (Branch.keys t).length + 1 < cap
      · rw [if_pos hroom]
        exact ⟨_, _, rfl, ⟨g1, g2, Nat.le_trans (Nat.le_succ_of_le hz1) (Nat.le_of_eq ht1len.symm),
          Nat.le_trans (Nat.succ_le_succ (Nat.le_of_eq ht1len)) hroom, g3⟩, g4⟩
      · rw [if_neg hroom]
        have hn : (Branch.keys t).length + 1 = cap := Nat.le_antisymm hz2 (Nat.le_of_not_lt hroom)
        obtain ⟨hk2, hk4⟩ := minKeys_half cap hcap
        obtain ⟨hlt, sizes⟩ := branch_split_sizes 1 hk2 hk4 (congrArg (· + 1) (ht1len.trans hn))
        rw [hn]
        obtain ⟨pk, hpk⟩ : ∃ pk, (Branch.split1 (t : Branch K (Tree K V h)) (upperBound (Branch.keys t) k) l r sep).keys[cap / 2]? = some pk :=
          ⟨_, List.getElem?_eq_getElem hlt⟩
        obtain ⟨hc, hpks, hlL, hlR, hcut⟩ := branch_cut_ins h lo hi _ pk (Branch.id t) 0 g1 hpk (Nat.lt_of_lt_of_le (minKeys_bounds cap hcap).1 hk2)
        obtain ⟨sL, sR⟩ := sizes _ _ hlL hlR
        rw [hpk]
        exact ⟨_, _, rfl, ⟨hc.left, hc.right, hc.inB, hpks, hcut.trans g2, ⟨sL.1, sL.2, fun x hx => g3 x (List.mem_of_mem_take hx)⟩,
          ⟨sR.1, sR.2, fun x hx => g3 x (List.mem_of_mem_drop hx)⟩⟩, g4.cut _ _ _ _ _⟩

end BPT.Py
