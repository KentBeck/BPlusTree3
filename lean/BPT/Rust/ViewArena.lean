import BPT.Rust.Bridge
import BPT.Arena.Proofs
/-
  The arenas of the view are well-formed `CompactArena`s (`AInv`), and their
  allocated-slot counts are the numbers of reachable leaves and branches.
-/
namespace BPT.Rust
open BPT Tree
variable {K V : Type} [Keyed K]

theorem view_arena_ainv {α β : Type} {f : α → Nat} {g : Option α → β} {ls : List α} {a : Alloc}
    (hok : IdsOK (ls.map f) a) (hsmall : a.len ≤ nullId) :
    Arena.AInv (viewArena f g ls a) ∧ (viewArena f g ls a).len = ls.length := by
  -- slot `i` is allocated iff `i` is the id of a listed node, and ids are distinct
  have hcnt : (viewArena f g ls a).mask.count true = ls.length := by
    show ((List.range a.len).map _).count true = _
    rw [count_true_map, List.filter_congr (fun i _ => find?_isSome_eq_decide_mem f ls i),
      filter_mem_length hok.nodup_ids (fun x hx => hok.lt (List.mem_append_left _ hx)), List.length_map]
  refine ⟨{ len_eq := by simp [viewArena]
            free_nodup := hok.nodup_free
            free_iff := ?_
            count := ?_
            bound := by simpa [viewArena] using hsmall }, hcnt⟩
  · intro i
    show i ∈ a.free ↔ ((List.range a.len).map _)[i]? = some false
    rw [List.getElem?_map]
    by_cases hi : i < a.len
    · -- slot `i` is counted once: among the ids or on the free list
      have h1 := hok i
      rw [if_pos hi] at h1
      rw [List.getElem?_range hi, Option.map_some, Option.some.injEq, find?_isSome_eq_decide_mem, decide_eq_false_iff_not,
        ← List.count_pos_iff, ← List.count_eq_zero]
      omega
    · rw [List.getElem?_eq_none (by simpa using hi), Option.map_none]
      exact ⟨fun hf => absurd (hok.lt (List.mem_append_right _ hf)) hi, nofun⟩
  · show a.free.length + (viewArena f g ls a).mask.count true = (viewArena f g ls a).mask.length
    rw [hcnt]
    have := hok.length
    simp only [viewArena, List.length_map, List.length_range] at this ⊢
    omega

/-- both arenas of the view of a valid state are well-formed, and their allocated counts are the
    numbers of leaves and branches reachable from the root -/
theorem view_arenas (s : RState K V) (hs : SInv s) (hsm : Small s) :
    Arena.AInv (view s).leaves ∧ Arena.AInv (view s).branches ∧
    (view s).leaves.len = (leaves s.height s.root).length ∧ (view s).branches.len = (bids s.height s.root).length := by
  obtain ⟨hl, hb⟩ := hs.nodeIds
  have h1 := viewLeaves_eq s.cap (leaves s.height s.root) s.al.leaf ▸ view_arena_ainv hl hsm.1
  have h2 := viewBranches_eq s.cap (branches s.height s.root) s.al.branch ▸ view_arena_ainv hb hsm.2
  refine ⟨h1.1, h2.1, h1.2, ?_⟩
  rw [bids_eq_branches, List.length_map]; exact h2.2

end BPT.Rust
