import BPT.Core.Glue
import BPT.Core.SMap
/- The descent of a search for `k` through an ordered branch, proved once for the three implementations: which
   child it reaches, and what replacing that child or cutting the branch does to `Ordered` and to the entry list
   (a root grown over two halves is `ordered_two`); at a leaf, what finding, overwriting, putting in or taking out the
   key at its lower bound does to the entries.  No policy occurs here. -/
namespace BPT
open Tree
variable {K V : Type} [Keyed K]

theorem Tree.Ordered.left_lt {h : Nat} {b : Branch K (Tree K V h)} {lo hi : Option Int} (hb : Ordered (h+1) b lo hi) (k : K) :
    ∀ p ∈ (b.children.take (upperBound b.keys k)).flatMap (toList h), ord p.1 < ord k := by
  intro p hp
  obtain ⟨c, hcm, hpc⟩ := List.mem_flatMap.1 hp
  obtain ⟨j, hj, hcj⟩ := mem_take_iff_getElem?.1 hcm
  -- `p` lies below separator `j`, which is one of the keys `≤ k`
  obtain ⟨s, hs⟩ := exists_getElem? (Nat.lt_of_lt_of_le hj (upperBound_le b.keys k))
  exact Int.lt_of_lt_of_le (hb.lt_key hcj hs (Nat.le_refl j) p hpc)
    ((upperBound_spec b.keys k hb.sorted).1 s (mem_take_iff_getElem?.2 ⟨j, hj, hs⟩))

theorem Tree.Ordered.right_gt {h : Nat} {b : Branch K (Tree K V h)} {lo hi : Option Int} (hb : Ordered (h+1) b lo hi) (k : K) :
    ∀ p ∈ (b.children.drop (upperBound b.keys k + 1)).flatMap (toList h), ord k < ord p.1 := by
  have hlen := hb.arity
  intro p hp
  obtain ⟨c, hcm, hpc⟩ := List.mem_flatMap.1 hp
  obtain ⟨j, hcj⟩ := mem_drop_iff_getElem?.1 hcm
  have hjl := lt_of_getElem?_eq_some hcj
  -- `p` lies at or above the separator at `upperBound`, the first of the keys above `k`
  obtain ⟨s, hs⟩ := exists_getElem? (show upperBound b.keys k < b.keys.length by omega)
  exact Int.lt_of_lt_of_le ((upperBound_spec b.keys k hb.sorted).2 s (mem_drop_iff_getElem?.2 ⟨0, hs⟩))
    (hb.key_le hcj hs (Nat.lt_add_right j (Nat.lt_succ_self _)) p hpc)

/-- `lt` follows from `get`, `left` and `right` from `whole`, `child` from both (`Tree.Ordered.route`) -/
structure Route (h : Nat) (b : Branch K (Tree K V h)) (lo hi : Option Int) (k : K) (c : Tree K V h) : Prop where
  whole : Ordered (h+1) b lo hi
  lt : upperBound b.keys k < b.children.length
  get : b.children[upperBound b.keys k]? = some c
  child : Ordered h c (loAt b.keys lo (upperBound b.keys k)) (hiAt b.keys hi (upperBound b.keys k))
  left : ∀ p ∈ (b.children.take (upperBound b.keys k)).flatMap (toList h), ord p.1 < ord k
  right : ∀ p ∈ (b.children.drop (upperBound b.keys k + 1)).flatMap (toList h), ord k < ord p.1

theorem Tree.Ordered.route {h : Nat} {b : Branch K (Tree K V h)} {lo hi : Option Int} (hb : Ordered (h+1) b lo hi) (k : K) :
    ∃ c, Route h b lo hi k c := by
  have hlt : upperBound b.keys k < b.children.length := by
    have := upperBound_le b.keys k; have := hb.arity; omega
  exact ⟨b.children[upperBound b.keys k], hb, hlt, List.getElem?_eq_getElem hlt, hb.child (List.getElem?_eq_getElem hlt),
    hb.left_lt k, hb.right_gt k⟩

namespace Route
variable {h : Nat} {b : Branch K (Tree K V h)} {lo hi : Option Int} {k : K} {c : Tree K V h}

theorem mem (r : Route h b lo hi k c) : c ∈ b.children := List.mem_of_getElem? r.get

theorem inB (r : Route h b lo hi k c) (hk : InB lo hi (ord k)) :
    InB (loAt b.keys lo (upperBound b.keys k)) (hiAt b.keys hi (upperBound b.keys k)) (ord k) :=
  hk.to_child (upperBound_le b.keys k) (upperBound_le b.keys k) (upperBound_spec b.keys k r.whole.sorted).1
    (upperBound_spec b.keys k r.whole.sorted).2

theorem toList_local (r : Route h b lo hi k c) {f : List (K × V) → List (K × V)} (hf : SMap.Local k f) :
    f (toList (h+1) b) = (b.children.take (upperBound b.keys k)).flatMap (toList h) ++ f (toList h c) ++
      (b.children.drop (upperBound b.keys k + 1)).flatMap (toList h) := by
  rw [toList_succ, flatMap_split (toList h) r.get, List.append_assoc, hf.left _ _ r.left, hf.right _ _ r.right,
    List.append_assoc]

theorem lookup (r : Route h b lo hi k c) : SMap.lookup (toList (h+1) b) k = SMap.lookup (toList h c) k := by
  rw [toList_succ, flatMap_split (toList h) r.get, List.append_assoc, SMap.lookup_append_left r.left,
    SMap.lookup_append_right r.right]

theorem replace1 (r : Route h b lo hi k c) {c' : Tree K V h}
    (hc' : Ordered h c' (loAt b.keys lo (upperBound b.keys k)) (hiAt b.keys hi (upperBound b.keys k))) :
    Ordered (h+1) (b.replace1 (upperBound b.keys k) c') lo hi :=
  ordered_replace1 h b lo hi c' r.whole r.lt hc'

theorem replace1_toList (r : Route h b lo hi k c) {f : List (K × V) → List (K × V)} (hf : SMap.Local k f) {c' : Tree K V h}
    (hl : toList h c' = f (toList h c)) :
    toList (h+1) (b.replace1 (upperBound b.keys k) c') = f (toList (h+1) b) := by
  rw [toList_succ, r.toList_local hf, ← hl]
  exact Branch.flatMap_replace1 (toList h) b _ c'

/-- `hstrict`: `hc.inB` bounds `sep` only weakly from below.  The second conjunct: the C code looks up the place of `sep`
    by `lowerBound` instead of reusing the child's index. -/
theorem split1 (r : Route h b lo hi k c) {f : List (K × V) → List (K × V)} (hf : SMap.Local k f) {l r' : Tree K V h} {sep : K}
    (hc : Cut h (loAt b.keys lo (upperBound b.keys k)) (hiAt b.keys hi (upperBound b.keys k)) l sep r')
    (hstrict : ∀ x, loAt b.keys lo (upperBound b.keys k) = some x → x < ord sep)
    (hlr : toList h l ++ toList h r' = f (toList h c)) (P : Tree K V h → Prop) (hPl : P l) (hPr : P r') (hPb : ∀ x ∈ b.children, P x) :
    Ordered (h+1) (b.split1 (upperBound b.keys k) l r' sep) lo hi ∧ lowerBound b.keys sep = upperBound b.keys k ∧
    toList (h+1) (b.split1 (upperBound b.keys k) l r' sep) = f (toList (h+1) b) ∧
    (b.split1 (upperBound b.keys k) l r' sep).keys.length = b.keys.length + 1 ∧
    ∀ x ∈ (b.split1 (upperBound b.keys k) l r' sep).children, P x := by
  have hs := r.whole.sorted
  have hle := upperBound_le b.keys k
  have h1 := keys_take_lt_of_lo b.keys lo _ (ord sep) hs hle hstrict
  have h2 := keys_drop_gt_of_hi b.keys hi _ (ord sep) hs (fun _ => hc.inB.lt_hi)
  refine ⟨ordered_split1 h b lo hi _ l r' sep r.whole r.lt hc.left hc.right h1 h2 (hc.inB.of_child hle hle r.whole.keys_inB r.whole.keys_inB),
    lowerBound_sep b.keys _ sep hle h1 h2, ?_, length_insertAt,
    fun x hx => (Branch.mem_split1 b _ l r' sep x hx).elim (· ▸ hPl) fun hx => hx.elim (· ▸ hPr) (hPb x)⟩
  rw [toList_succ, r.toList_local hf, ← hlr]
  exact Branch.flatMap_split1 (toList h) b l r' sep r.lt

end Route

/-- `hpos`: the left half holds a key, which puts the separator strictly above `lo` -/
theorem branch_cut_ins (h : Nat) {b : Branch K (Tree K V h)} (lo hi : Option Int) (m : Nat) (pk : K) (id₁ id₂ : Nat)
    (hb : Ordered (h+1) b lo hi) (hm : b.keys[m]? = some pk) (hpos : 0 < m) :
    Cut (h+1) lo hi ({ id := id₁, keys := b.keys.take m, children := b.children.take (m+1) } : Branch K (Tree K V h)) pk
      ({ id := id₂, keys := b.keys.drop (m+1), children := b.children.drop (m+1) } : Branch K (Tree K V h)) ∧
    (∀ x, lo = some x → x < ord pk) ∧
    (b.keys.take m).length = m ∧ (b.keys.drop (m+1)).length = b.keys.length - (m+1) ∧
    toList (h+1) (({ id := id₁, keys := b.keys.take m, children := b.children.take (m+1) } : Branch K (Tree K V h)) : Tree K V (h+1)) ++
      toList (h+1) (({ id := id₂, keys := b.keys.drop (m+1), children := b.children.drop (m+1) } : Branch K (Tree K V h)) : Tree K V (h+1)) =
      toList (h+1) b := by
  obtain ⟨hL, hR, hB⟩ := branch_cut_spec h b lo hi m pk id₁ id₂ hb hm
  have hml := lt_of_getElem?_eq_some hm
  have hlen : (b.keys.take m).length = m := List.length_take_of_le (Nat.le_of_lt hml)
  exact ⟨⟨hL, hR, hB⟩, Cut.lo_lt ⟨hL, hR, hB⟩ (Nat.lt_of_lt_of_eq hpos hlen.symm), hlen, List.length_drop,
    by simp only [toList_succ, ← List.flatMap_append, List.take_append_drop]⟩

theorem leaf_cut_ins {l : Leaf K V} (lo hi : Option Int) (m : Nat) (sep : K) (id₁ id₂ n₁ n₂ : Nat)
    (ho : Ordered 0 (l : Tree K V 0) lo hi) (hsep : (l.keys.drop m).head? = some sep) (hpos : 0 < m) :
    Cut 0 lo hi (({ id := id₁, keys := l.keys.take m, vals := l.vals.take m, next := n₁ } : Leaf K V) : Tree K V 0) sep
      ({ id := id₂, keys := l.keys.drop m, vals := l.vals.drop m, next := n₂ } : Leaf K V) ∧
    (∀ x, lo = some x → x < ord sep) ∧
    (l.keys.take m).length = m ∧ (l.keys.drop m).length = l.keys.length - m ∧
    toList 0 (({ id := id₁, keys := l.keys.take m, vals := l.vals.take m, next := n₁ } : Leaf K V) : Tree K V 0) ++
      toList 0 (({ id := id₂, keys := l.keys.drop m, vals := l.vals.drop m, next := n₂ } : Leaf K V) : Tree K V 0) = toList 0 (l : Tree K V 0) := by
  obtain ⟨hL, hR, hB⟩ := Rust.leaf_cut_spec l.keys l.vals m lo hi sep ho.leaf_sorted ho.leaf_lens ho.leaf_inB hsep id₁ id₂ n₁ n₂
  have hml : m < l.keys.length := lt_of_getElem?_eq_some (List.head?_drop ▸ hsep)
  have hlen : (l.keys.take m).length = m := List.length_take_of_le (Nat.le_of_lt hml)
  refine ⟨⟨hL, hR, hB⟩, Cut.lo_lt ⟨hL, hR, hB⟩ (Nat.lt_of_lt_of_eq hpos hlen.symm), hlen, List.length_drop, ?_⟩
  rw [toList_zero, toList_zero, toList_zero]
  exact zip_take_append_drop

theorem toList_grow (h : Nat) (l r : Tree K V h) (sep : K) (id : Nat) :
    toList (h+1) (({ id := id, keys := [sep], children := [l, r] } : Branch K (Tree K V h)) : Tree K V (h+1)) = toList h l ++ toList h r := by
  rw [toList_succ]
  show [l, r].flatMap (toList h) = _
  simp

theorem leaf_present_spec (l : Leaf K V) (lo hi : Option Int) (k k' : K) (ho : Ordered 0 (l : Tree K V 0) lo hi)
    (hk' : l.keys[lowerBound l.keys k]? = some k') (he : ord k' = ord k) :
    ∃ v, l.vals[lowerBound l.keys k]? = some v ∧ SMap.lookup (toList 0 (l : Tree K V 0)) k = some (k', v) := by
  obtain ⟨A, M, B, e, _, hA, hB, hM⟩ := SMap.zip_lowerBound l.keys l.vals k ho.leaf_sorted ho.leaf_lens
  rw [toList_zero, Leaf.entries, e, SMap.lookup_append_right hB, SMap.lookup_append_left hA]
  rcases hM with ⟨_, hnf⟩ | ⟨k'', v, rfl, hk, hv, _⟩
  · exact absurd he (hnf k' hk')
  · cases hk'.symm.trans hk
    exact ⟨v, hv, (SMap.lookup_cons ..).trans (if_pos he)⟩

theorem leaf_set_spec (l : Leaf K V) (lo hi : Option Int) (k k' : K) (v : V) (ho : Ordered 0 (l : Tree K V 0) lo hi)
    (hk' : l.keys[lowerBound l.keys k]? = some k') (he : ord k' = ord k) :
    lowerBound l.keys k < l.vals.length ∧
    Ordered 0 (({ l with vals := setAt l.vals (lowerBound l.keys k) v } : Leaf K V) : Tree K V 0) lo hi ∧
    toList 0 (({ l with vals := setAt l.vals (lowerBound l.keys k) v } : Leaf K V) : Tree K V 0) = SMap.insert (toList 0 (l : Tree K V 0)) k v ∧
    (SMap.lookup (toList 0 (l : Tree K V 0)) k).isSome := by
  obtain ⟨hs, hl, hb⟩ := ho
  have hlt : lowerBound l.keys k < l.vals.length := hl ▸ lt_of_getElem?_eq_some hk'
  refine ⟨hlt, ⟨hs, by simp [length_setAt hlt, hl], hb⟩, ?_, ?_⟩
  · simp only [toList_zero, Leaf.entries]
    rw [SMap.insert_zip _ _ k v hs hl, hk']; simp [he]
  · obtain ⟨_, _, e⟩ := leaf_present_spec l lo hi k k' ⟨hs, hl, hb⟩ hk' he
    rw [e]; rfl

theorem leaf_absent_spec (l : Leaf K V) (lo hi : Option Int) (k : K) (ho : Ordered 0 (l : Tree K V 0) lo hi)
    (hnf : ∀ k', l.keys[lowerBound l.keys k]? = some k' → ord k' ≠ ord k) : SMap.lookup (toList 0 (l : Tree K V 0)) k = none := by
  obtain ⟨A, M, B, e, _, hA, hB, hM⟩ := SMap.zip_lowerBound l.keys l.vals k ho.leaf_sorted ho.leaf_lens
  rw [toList_zero, Leaf.entries, e, SMap.lookup_append_right hB, SMap.lookup_append_left hA]
  rcases hM with ⟨rfl, _⟩ | ⟨k', _, _, hk, _, he⟩
  · rfl
  · exact absurd he (hnf k' hk)

theorem leaf_remove_spec (l : Leaf K V) (lo hi : Option Int) (k k' : K) (ho : Ordered 0 (l : Tree K V 0) lo hi)
    (hk' : l.keys[lowerBound l.keys k]? = some k') (he : ord k' = ord k) :
    lowerBound l.keys k < l.vals.length ∧
    Ordered 0 (({ l with keys := removeAt l.keys (lowerBound l.keys k), vals := removeAt l.vals (lowerBound l.keys k) } : Leaf K V) : Tree K V 0) lo hi ∧
    toList 0 (({ l with keys := removeAt l.keys (lowerBound l.keys k), vals := removeAt l.vals (lowerBound l.keys k) } : Leaf K V) : Tree K V 0) =
      SMap.erase (toList 0 (l : Tree K V 0)) k ∧
    (removeAt l.keys (lowerBound l.keys k)).length + 1 = l.keys.length ∧
    (SMap.lookup (toList 0 (l : Tree K V 0)) k).isSome := by
  obtain ⟨hs, hl, hb⟩ := ho
  have hlt := lt_of_getElem?_eq_some hk'
  have hltv : lowerBound l.keys k < l.vals.length := hl ▸ hlt
  refine ⟨hltv, ⟨ksorted_removeAt hs, ?_, fun x hx => hb x (mem_of_mem_removeAt hx)⟩, ?_, by rw [length_removeAt hlt]; exact Nat.sub_add_cancel (Nat.zero_lt_of_lt hlt), ?_⟩
  · show (removeAt l.keys _).length = (removeAt l.vals _).length
    rw [length_removeAt hlt, length_removeAt hltv, hl]
  · simp only [toList_zero, Leaf.entries]
    rw [SMap.erase_zip k hs hl, hk']; simp [he]
  · obtain ⟨_, _, e⟩ := leaf_present_spec l lo hi k k' ⟨hs, hl, hb⟩ hk' he
    rw [e]; rfl

theorem leaf_put_spec (l : Leaf K V) (lo hi : Option Int) (k : K) (v : V) (ho : Ordered 0 (l : Tree K V 0) lo hi)
    (hk : InB lo hi (ord k)) (hnf : ∀ k', l.keys[lowerBound l.keys k]? = some k' → ord k' ≠ ord k) :
    Ordered 0 (({ l with keys := insertAt l.keys (lowerBound l.keys k) k, vals := insertAt l.vals (lowerBound l.keys k) v } : Leaf K V) : Tree K V 0) lo hi ∧
    toList 0 (({ l with keys := insertAt l.keys (lowerBound l.keys k) k, vals := insertAt l.vals (lowerBound l.keys k) v } : Leaf K V) : Tree K V 0) =
      SMap.insert (toList 0 (l : Tree K V 0)) k v ∧
    SMap.lookup (toList 0 (l : Tree K V 0)) k = none := by
  obtain ⟨hs, hl, hb⟩ := ho
  have hks := ksorted_insertAt k hs (lowerBound_spec l.keys k hs).1 (lowerBound_strict l.keys k hs hnf)
  refine ⟨⟨hks, ?_, ?_⟩, ?_, leaf_absent_spec l lo hi k ⟨hs, hl, hb⟩ hnf⟩
  · show (insertAt l.keys _ k).length = (insertAt l.vals _ v).length
    rw [length_insertAt, length_insertAt, hl]
  · intro x hx
    rcases mem_insertAt.1 hx with rfl | hx
    · exact hk
    · exact hb x hx
  · simp only [toList_zero, Leaf.entries]
    rw [SMap.insert_zip _ _ k v hs hl, if_neg (map_ord_ne_of_miss hnf)]

end BPT
