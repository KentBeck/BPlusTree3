import BPT.Rust.NoUB
/-
  C15 — Rust safe node/arena helper API cannot be used to reach undefined behaviour.

  The helpers (`get_leaf_mut`, `get_branch_mut`, `set_leaf_next`,
  `allocate_leaf/deallocate_leaf`, `LeafNode::push_*/take_*/append_*/…`) can put
  the arenas in *any* state, so the theorem quantifies over every `RawMap`
  whatsoever — no invariant is assumed.
-/
namespace BPT.Props.C15
open BPT BPT.Rust RawMap

variable {K V : Type} [Keyed K]

/-- **no raw state makes one of these readers perform an unchecked access outside its precondition** (the counting
    and navigation calls, which contain none, are not listed) -/
theorem no_ub_from_any_state (m : RawMap K V) (lo hi : Bound K) (a b : Option K) (k : K) (e : Bound K) :
    NoUB (m.items Cfg.repaired) ∧ NoUB (m.itemsFast Cfg.repaired) ∧ NoUB (m.keys Cfg.repaired) ∧
    NoUB (m.values Cfg.repaired) ∧ NoUB (m.first Cfg.repaired) ∧ NoUB (m.last Cfg.repaired) ∧
    NoUB (m.range Cfg.repaired lo hi) ∧ NoUB (m.itemsRange Cfg.repaired a b) ∧ NoUB (m.itemsFromKey Cfg.repaired k e) ∧
    NoUB (m.get k) ∧ NoUB m.len :=
  readers_noub m lo hi a b k e

/-- validators too: they iterate through `keys()` and walk the arenas with checked lookups only -/
theorem validators_no_ub (m : RawMap K V) : NoUB (m.checkInvariants Cfg.repaired) ∧ NoUB (m.checkDetailed Cfg.repaired) :=
  checkDetailed_noub m

/-- every single `next()` call, in any iterator state over any raw map -/
theorem next_no_ub (m : RawMap K V) (f : Nat) (st : ItState K V) (r : RangeState K V) (fs : FastState K V) :
    NoUB (itemNext Cfg.repaired m f st) ∧ NoUB (rangeNext Cfg.repaired m f r) ∧ NoUB (fastNext Cfg.repaired m f fs) :=
  next_noub m f st r fs

/-- the public positioned constructors, at any `(leaf id, index)`: a free slot, an id never issued, one past the end -/
theorem positioned_constructors_no_ub (m : RawMap K V) (info : Option (Nat × Nat)) (skip : Bool) (hi : Bound K)
    (leafId idx : Nat) (e : Bound K) :
    NoUB (m.rangeFrom Cfg.repaired info skip hi) ∧ NoUB (m.itemsFromPos Cfg.repaired leafId idx e) :=
  ⟨drain_noub (rangeNext_noub _ rfl m _) _, drain_noub (itemNext_noub _ rfl m _) _⟩

/-- the defect as found (D4), on its witnesses: both patterns reach `ub` from safe calls; the repaired readers do not -/
theorem legacy_witnesses :
    (p1Witness.items { guardBoth := false } = .ub ∧ p1Witness.items Cfg.repaired = .ok []) ∧
    (p3Witness.itemsFast { fastChecked := false } = .ub ∧ p3Witness.itemsFast Cfg.repaired = .ok [(7, 70)]) :=
  ⟨Legacy.p1_unsafe_on_raw, Legacy.p3_unsafe_on_raw⟩

end BPT.Props.C15
