import BPT.Py.Model
import BPT.Core.Route
/-
  `LeafNode.split_and_insert` splits at `len/2` and then inserts into one half; here it is "insert, then
  cut at `len/2` or `len/2 + 1`" (`splitLeafInsert_eq`), which brings the leaf level under the leaf lemmas of `Core/Route`.
-/
namespace BPT.Py
open BPT Tree
variable {K V : Type} [Keyed K]

theorem splitLeafInsert_eq (l : Leaf K V) (k : K) (v : V) (nid : Nat) (hs : KSorted l.keys) (hl : l.keys.length = l.vals.length)
    (h0 : 0 < l.keys.length) (hnf : ∀ k', l.keys[lowerBound l.keys k]? = some k' → ord k' ≠ ord k) :
    ∃ m sep, l.keys.length / 2 ≤ m ∧ m ≤ l.keys.length / 2 + 1 ∧
      ((insertAt l.keys (lowerBound l.keys k) k).drop m).head? = some sep ∧
      splitLeafInsert l k v nid = some (.split
        ({ id := l.id, keys := (insertAt l.keys (lowerBound l.keys k) k).take m,
           vals := (insertAt l.vals (lowerBound l.keys k) v).take m, next := nid } : Leaf K V)
        ({ id := nid, keys := (insertAt l.keys (lowerBound l.keys k) k).drop m,
           vals := (insertAt l.vals (lowerBound l.keys k) v).drop m, next := l.next } : Leaf K V) sep) := by
  have hi_le := lowerBound_le l.keys k
  have hiv_le : lowerBound l.keys k ≤ l.vals.length := hl ▸ hi_le
  -- from here on the split point is any interior index `mid`
  have hmid_lt : l.keys.length / 2 < l.keys.length := Nat.div_lt_self h0 (by decide)
  unfold splitLeafInsert
  simp only [splitMid]
  generalize l.keys.length / 2 = mid at hmid_lt ⊢
  have hmid_le : mid ≤ l.keys.length := Nat.le_of_lt hmid_lt
  have hmidv : mid ≤ l.vals.length := hl ▸ hmid_le
  have hr0 : (l.keys.drop mid).head? = some l.keys[mid] := by
    rw [List.head?_drop, List.getElem?_eq_getElem hmid_lt]
  have hiff := lt_getElem_iff_lowerBound_le l.keys k mid _ hs hnf (List.getElem?_eq_getElem hmid_lt)
  simp only [hr0]
  by_cases hlt : ord k < ord l.keys[mid]
  · -- the key goes left: the cut moves one to the right
    have him : lowerBound l.keys k ≤ mid := hiff.1 hlt
    refine ⟨mid + 1, l.keys[mid], Nat.le_succ _, Nat.le_refl _, ?_, ?_⟩
    · rw [drop_insertAt_le him hmid_le]; exact hr0
    · simp only [hlt, if_true]
      rw [lowerBound_take l.keys k _ him, take_insertAt_le him hmid_le, drop_insertAt_le him hmid_le,
        take_insertAt_le him hmidv, drop_insertAt_le him hmidv]
  · -- the key goes right: the cut stays
    have him : mid < lowerBound l.keys k := Nat.lt_of_not_le fun h => hlt (hiff.2 h)
    simp only [hlt, if_false]
    rw [lowerBound_drop l.keys k _ (Nat.le_of_lt him), ← drop_insertAt_gt him hi_le, ← drop_insertAt_gt him hiv_le]
    have hlen : mid < (insertAt l.keys (lowerBound l.keys k) k).length := by
      rw [length_insertAt]; exact Nat.lt_succ_of_lt hmid_lt
    have hsep : ((insertAt l.keys (lowerBound l.keys k) k).drop mid).head? = some (insertAt l.keys (lowerBound l.keys k) k)[mid] := by
      rw [List.head?_drop, List.getElem?_eq_getElem hlen]
    refine ⟨mid, _, Nat.le_refl _, Nat.le_succ _, hsep, ?_⟩
    simp only [hsep]
    rw [take_insertAt_gt him hi_le, take_insertAt_gt him hiv_le]

theorem insertLeaf_present (cap : Nat) (l : Leaf K V) (k k' : K) (v : V) (nid : Nat)
    (hk' : l.keys[lowerBound l.keys k]? = some k') (he : ord k' = ord k) (hlt : lowerBound l.keys k < l.vals.length) :
    insertLeaf cap l k v nid =
      some (.updated ({ l with vals := setAt l.vals (lowerBound l.keys k) v } : Leaf K V), false) := by
  simp [insertLeaf, hk', he, hlt]

theorem insertLeaf_absent (cap : Nat) (l : Leaf K V) (k : K) (v : V) (nid : Nat)
    (hnf : ∀ k', l.keys[lowerBound l.keys k]? = some k' → ord k' ≠ ord k) :
    insertLeaf cap l k v nid =
      if l.keys.length < cap then
        some (.updated ({ l with keys := insertAt l.keys (lowerBound l.keys k) k,
                                 vals := insertAt l.vals (lowerBound l.keys k) v } : Leaf K V), false)
      else (splitLeafInsert l k v nid).map fun r => (r, true) := by
  unfold insertLeaf
  simp only []
  cases hk' : l.keys[lowerBound l.keys k]? with
  | none => simp [isFull, Nat.not_le]
  | some k' => simp [isFull, Nat.not_le, hnf k' hk']

end BPT.Py
