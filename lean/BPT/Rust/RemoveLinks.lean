import BPT.Rust.RemoveCases
import BPT.Rust.Moves
/-
  What remove does to the leaf chain and to the leaf allocator (`LinkRem`): read off the shapes a rebalance
  can return (RemoveCases) and carried up the path by `removeRec_induction`.
-/
namespace BPT.Rust
open BPT Tree
variable {K V : Type}

/-- what a remove does to the links: nothing, or two adjacent links are fused and the second id is released -/
inductive LinkRem (L L' : List (Nat × Nat)) (a a' : Alloc) : Prop where
  | same (h1 : L' = L) (h2 : a' = a)
  | merge (A B : List (Nat × Nat)) (ia na ib nb : Nat) (h1 : L = A ++ [(ia, na), (ib, nb)] ++ B)
      (h2 : L' = A ++ [(ia, nb)] ++ B) (h3 : a' = a.dealloc ib)

theorem LinkRem.ctx {L L' : List (Nat × Nat)} {a a' : Alloc} (P Q : List (Nat × Nat)) (h : LinkRem L L' a a') :
    LinkRem (P ++ L ++ Q) (P ++ L' ++ Q) a a' := by
  cases h with
  | same h1 h2 => exact .same (by rw [h1]) h2
  | merge A B ia na ib nb h1 h2 h3 =>
    exact .merge (P ++ A) (B ++ Q) ia na ib nb (append_ctx P Q h1) (append_ctx P Q h2) h3

theorem LinkRem.chain {L L' : List (Nat × Nat)} {a a' : Alloc} (h : LinkRem L L' a a') (nxt : Nat) (hc : ChainL L nxt) :
    ChainL L' nxt ∧ firstOf L' nxt = firstOf L nxt := by
  cases h with
  | same h1 h2 => rw [h1]; exact ⟨hc, rfl⟩
  | merge A B ia na ib nb h1 h2 h3 => rw [h1] at hc; rw [h1, h2]; exact chainL_merge A B ia na ib nb nxt hc

theorem LinkRem.replace1 {h : Nat} {b : Branch K (Tree K V h)} {i : Nat} {c c' : Tree K V h} {a a' : Alloc}
    (hc : b.children[i]? = some c) (hl : LinkRem (links h c) (links h c') a a') :
    LinkRem (links (h+1) (b : Tree K V (h+1))) (links (h+1) (b.replace1 i c' : Tree K V (h+1))) a a' := by
  rw [links_succ, links_succ, Branch.replace1_children, flatMap_setAt, flatMap_split (links h) hc]
  exact hl.ctx _ _

theorem rebalanceLeaf_links {cap : Nat} {b : Branch K (Leaf K V)} {i : Nat} {al : Allocs} {b2 : Branch K (Leaf K V)} {al2 : Allocs}
    (he : rebalanceLeaf cap b i al = some (b2, al2)) :
    LinkRem (links 1 (b : Tree K V 1)) (links 1 (b2 : Tree K V 1)) al.leaf al2.leaf := by
  cases rebalanceLeaf_shape he with
  | alone => exact .same rfl rfl
  | borrow j x y x' y' ks hx hy hx' hy' =>
    refine .same ?_ rfl
    rw [links_two 0 b j x y hx hy, links_succ]
    show (setAt (setAt b.children j x') (j+1) y').flatMap (links 0) = _
    rw [setAt_setAt_succ (lt_of_getElem?_eq_some hy), ← links_leaf_of_sameLink hx', ← links_leaf_of_sameLink hy']
    simp [List.flatMap_append]
  | merge j x y m hx hy hm =>
    refine .merge _ _ x.id x.next y.id y.next (links_two 0 b j x y hx hy) ?_ rfl
    rw [branchMerge2_eq, links_merge2 0 b j y m hy, links_zero, hm.1, hm.2]

/-- what a branch-level rebalance does to the allocators: the leaf one is untouched,
    the branch one is unchanged (borrow) or gets the merged-away node's id back -/
inductive BranchRem (a a' : Alloc) (ids ids' : List Nat) : Prop where
  | same (h1 : a' = a) (h2 : ids' = ids)
  | freed (x : Nat) (h1 : a' = a.dealloc x) (h2 : ∀ i, ids.count i = ids'.count i + (if i = x then 1 else 0))

theorem rebalanceBranch_links {cap h : Nat} {b : Branch K (Branch K (Tree K V h))} {i : Nat} {al : Allocs}
    {b2 : Branch K (Branch K (Tree K V h))} {al2 : Allocs} (he : rebalanceBranch cap b i al = some (b2, al2)) :
    links (h+2) (b2 : Tree K V (h+2)) = links (h+2) (b : Tree K V (h+2)) ∧ al2.leaf = al.leaf := by
  cases rebalanceBranch_shape he with
  | alone => exact ⟨rfl, rfl⟩
  | borrow j x y x' y' sep hx hy _ _ hc =>
    refine ⟨?_, rfl⟩
    rw [links_succ, links_succ, branchReplace2_eq]
    exact Branch.flatMap_replace2_eq (links (h+1)) hx hy (by simp only [links_succ, ← List.flatMap_append, hc])
  | merge j x y m hx hy _ hc =>
    refine ⟨?_, rfl⟩
    rw [branchMerge2_eq, links_merge2 (h+1) b j y m hy, links_two (h+1) b j x y hx hy]
    simp only [links_succ, ← List.flatMap_append, hc]

variable [Keyed K]

theorem removeRec_links (cap : Nat) :
    ∀ (h : Nat) (t : Tree K V h) (k : K) (al : Allocs) (r : RemOut K V h) (al' : Allocs),
      removeRec cap h t k al = some (r, al') → LinkRem (links h t) (links h r.t) al.leaf al'.leaf := by
  intro h t k
  refine removeRec_induction cap k (fun h t al t' al' => LinkRem (links h t) (links h t') al.leaf al'.leaf) ?_ ?_ ?_ ?_ h t
  · intro l al r hr; exact .same (links_leaf_of_sameLink (removeLeaf_some hr)) rfl
  · intro _ _ _ _; exact .same rfl rfl
  · intro _ _ _ _ _ _ hc _ ih; exact ih.replace1 hc
  · -- a leaf child keeps its link, the merge (if any) happens here; a branch child's rebalance keeps all links
    intro h b c al rc al1 b2 al2 hc hrec ih hreb
    cases h with
    | zero =>
      obtain ⟨h1, rfl⟩ := removeRec_zero_some hrec
      rw [← links_replace1_eq hc (links_leaf_of_sameLink (removeLeaf_some h1))]
      exact rebalanceLeaf_links hreb
    | succ h' =>
      obtain ⟨e1, e2⟩ := rebalanceBranch_links hreb
      rw [e1, e2]; exact ih.replace1 hc

end BPT.Rust
