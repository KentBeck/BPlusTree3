import BPT.Core.Ordered
/-
  `Ordered (h+1)` by list decomposition.  `OrdCh h cs us lo` walks the children `cs` against their upper
  bounds `us` (the separators, then `hi`: `ubs`); the lower bound of a child is the upper bound of its left
  neighbour.  `OrdCh` splits over `++`, which is all that replacing, splitting, merging, cutting and gluing need.
-/
namespace BPT
variable {K V : Type} [Keyed K]
open Tree

def ubs (ks : List K) (hi : Option Int) : List (Option Int) := ks.map (fun k => some (ord k)) ++ [hi]

theorem ubs_cons (k : K) (ks : List K) (hi : Option Int) : ubs (k :: ks) hi = some (ord k) :: ubs ks hi := rfl

theorem ubs_append (kl kr : List K) (hi : Option Int) :
    ubs (kl ++ kr) hi = kl.map (fun k => some (ord k)) ++ ubs kr hi := by
  simp [ubs]

theorem ubs_append_cons (K1 K2 : List K) (pk : K) (hi : Option Int) :
    ubs (K1 ++ pk :: K2) hi = ubs K1 (some (ord pk)) ++ ubs K2 hi := by
  simp [ubs]

theorem ubs_eq_cons (ks : List K) (hi : Option Int) : ubs ks hi = hiAt ks hi 0 :: (ubs ks hi).tail := by
  cases ks with
  | nil => rfl
  | cons k ks => rw [ubs_cons, hiAt_cons_zero]; rfl

theorem getLastD_ubs (ks : List K) (hi lo : Option Int) : (ubs ks hi).getLastD lo = hi := by
  simp [ubs]

theorem getLastD_map_ord (kl : List K) (lo : Option Int) :
    (kl.map (fun k => some (ord k))).getLastD lo = loAt kl lo kl.length := by
  induction kl generalizing lo with
  | nil => rfl
  | cons k kl ih => rw [List.map_cons, List.getLastD_cons, ih, List.length_cons, loAt_cons_succ]

def OrdCh (h : Nat) : List (Tree K V h) → List (Option Int) → Option Int → Prop
  | [], [], _ => True
  | c :: cs, u :: us, lo => Ordered h c lo u ∧ OrdCh h cs us u
  | _, _, _ => False

theorem ordCh_cons (h : Nat) (c : Tree K V h) (cs : List (Tree K V h)) (u : Option Int) (us : List (Option Int))
    (lo : Option Int) : OrdCh h (c :: cs) (u :: us) lo ↔ Ordered h c lo u ∧ OrdCh h cs us u := Iff.rfl

theorem OrdCh.length {h : Nat} : ∀ {cs : List (Tree K V h)} {us : List (Option Int)} {lo : Option Int},
    OrdCh h cs us lo → cs.length = us.length
  | [], [], _, _ => rfl
  | _ :: _, _ :: _, _, hc => by simp [hc.2.length]
  | [], _ :: _, _, hc => hc.elim
  | _ :: _, [], _, hc => hc.elim

theorem ordCh_append (h : Nat) (C1 C2 : List (Tree K V h)) (U1 U2 : List (Option Int)) (lo : Option Int)
    (hL : C1.length = U1.length) :
    OrdCh h (C1 ++ C2) (U1 ++ U2) lo ↔ OrdCh h C1 U1 lo ∧ OrdCh h C2 U2 (U1.getLastD lo) := by
  induction C1 generalizing U1 lo with
  | nil =>
    cases U1 with
    | nil => simp only [List.nil_append, OrdCh, true_and, List.getLastD_nil]
    | cons _ _ => simp at hL
  | cons c C1 ih =>
    cases U1 with
    | nil => simp at hL
    | cons u U1 =>
      simp only [List.cons_append, ordCh_cons, List.getLastD_cons, ih U1 u (by simpa using hL), and_assoc]

/-- `L` walks against the keys left of the run, `M` against `km` and then the first bound right of it, `R` against
    the rest -/
theorem ordCh_segment (h : Nat) (kl km kr : List K) (L M R : List (Tree K V h)) (lo hi : Option Int)
    (hL : L.length = kl.length) (hM : M.length = km.length + 1) :
    OrdCh h (L ++ M ++ R) (ubs (kl ++ km ++ kr) hi) lo ↔
      OrdCh h L (kl.map (fun k => some (ord k))) lo ∧
      OrdCh h M (ubs km (hiAt kr hi 0)) (loAt kl lo kl.length) ∧
      OrdCh h R (ubs kr hi).tail (hiAt kr hi 0) := by
  have e : ubs (km ++ kr) hi = ubs km (hiAt kr hi 0) ++ (ubs kr hi).tail := by
    rw [ubs_append, ubs_eq_cons kr hi]; simp [ubs]
  rw [List.append_assoc, List.append_assoc, ubs_append, ordCh_append h L _ _ _ lo (by simpa using hL),
    getLastD_map_ord, e, ordCh_append h M _ _ _ _ (by simpa [ubs] using hM), getLastD_ubs]

theorem ordCh_iff (h : Nat) (ks : List K) (cs : List (Tree K V h)) (lo hi : Option Int) :
    OrdCh h cs (ubs ks hi) lo ↔
      cs.length = ks.length + 1 ∧ ∀ i c, cs[i]? = some c → Ordered h c (loAt ks lo i) (hiAt ks hi i) := by
  induction ks generalizing cs lo with
  | nil =>
    match cs with
    | [] => simp [ubs, OrdCh]
    | [c] => simp [ubs, OrdCh, forall_getElem?_cons, loAt_zero, hiAt]
    | _ :: _ :: _ => simp [ubs, OrdCh]
  | cons k ks ih =>
    cases cs with
    | nil => simp [ubs_cons, OrdCh]
    | cons c cs =>
      rw [ubs_cons, ordCh_cons, ih, forall_getElem?_cons]
      simp only [List.length_cons, Nat.add_right_cancel_iff, loAt_zero, hiAt_cons_zero, loAt_cons_succ, hiAt_cons_succ]
      exact ⟨fun ⟨a, b, c⟩ => ⟨b, a, c⟩, fun ⟨b, a, c⟩ => ⟨a, b, c⟩⟩

theorem ordered_succ_iff (h : Nat) (b : Branch K (Tree K V h)) (lo hi : Option Int) :
    Ordered (h+1) b lo hi ↔
      KSorted b.keys ∧ (∀ k ∈ b.keys, InB lo hi (ord k)) ∧ OrdCh h b.children (ubs b.keys hi) lo := by
  rw [ordCh_iff]
  exact ⟨fun ⟨a, b, c, d⟩ => ⟨a, c, b, d⟩, fun ⟨a, c, b, d⟩ => ⟨a, b, c, d⟩⟩

/-- In `b`, seen as keys `kl ++ km ++ kr` over children `L ++ M ++ R`, the run `km`, `M` is replaced by the keys and
    children of an ordered node within the bounds of the run.  `hlt`: `InB` bounds the new keys only weakly from below. -/
theorem ordered_splice (h : Nat) (b : Branch K (Tree K V h)) (id' : Nat) {kl : List K} (km km' : List K) {kr : List K} {L : List (Tree K V h)} (M M' : List (Tree K V h)) {R : List (Tree K V h)}
    (lo hi : Option Int) (hk : b.keys = kl ++ km ++ kr) (hc : b.children = L ++ M ++ R)
    (hL : L.length = kl.length) (hM : M.length = km.length + 1) (hb : Ordered (h+1) b lo hi)
    (hm : Ordered (h+1) ({ id := id', keys := km', children := M' } : Branch K (Tree K V h)) (loAt kl lo kl.length) (hiAt kr hi 0))
    (hlt : ∀ x ∈ kl, ∀ k ∈ km', ord x < ord k) :
    Ordered (h+1) ({ id := b.id, keys := kl ++ km' ++ kr, children := L ++ M' ++ R } : Branch K (Tree K V h)) lo hi := by
  rw [ordered_succ_iff] at hb hm ⊢
  rw [hk, hc] at hb
  obtain ⟨hs0, hB0, hc0⟩ := hb
  obtain ⟨hs, hB, hc⟩ := hm
  obtain ⟨sl, _, sr, _, _, slr⟩ := (ksorted_append3 kl km kr).1 hs0
  obtain ⟨cL, _, cR⟩ := (ordCh_segment h kl km kr L M R lo hi hL hM).1 hc0
  have hM' : M'.length = km'.length + 1 := by rw [hc.length]; simp [ubs]
  have hBl : ∀ k ∈ kl, InB lo hi (ord k) := fun k hk => hB0 k (by simp [hk])
  have hBr : ∀ k ∈ kr, InB lo hi (ord k) := fun k hk => hB0 k (by simp [hk])
  refine ⟨(ksorted_append3 kl km' kr).2 ⟨sl, hs, sr, hlt, ?_, slr⟩, ?_,
    (ordCh_segment h kl km' kr L M' R lo hi hL hM').2 ⟨cL, hc, cR⟩⟩
  · exact fun k hk => keys_drop_gt_of_hi kr hi 0 (ord k) sr fun _ => (hB k hk).lt_hi
  · intro k hk
    simp only [List.mem_append] at hk
    rcases hk with (hk | hk) | hk
    · exact hBl k hk
    · exact (hB k hk).of_child (Nat.le_refl _) (Nat.zero_le _) hBl hBr
    · exact hBr k hk

/-- the last clause: `InB` bounds the keys of the right branch only weakly from below -/
theorem ordered_glue_iff (h : Nat) (K1 K2 : List K) (C1 C2 : List (Tree K V h)) (lo hi : Option Int) (pk : K) (id₁ id₂ id : Nat)
    (hl : C1.length = K1.length + 1) :
    Ordered (h+1) ({ id := id, keys := K1 ++ pk :: K2, children := C1 ++ C2 } : Branch K (Tree K V h)) lo hi ↔
      Ordered (h+1) ({ id := id₁, keys := K1, children := C1 } : Branch K (Tree K V h)) lo (some (ord pk)) ∧
      Ordered (h+1) ({ id := id₂, keys := K2, children := C2 } : Branch K (Tree K V h)) (some (ord pk)) hi ∧
      InB lo hi (ord pk) ∧ ∀ x ∈ K2, ord pk < ord x := by
  simp only [ordered_succ_iff, ubs_append_cons,
    ordCh_append h C1 C2 (ubs K1 (some (ord pk))) (ubs K2 hi) lo (by simpa [ubs] using hl), getLastD_ubs]
  unfold KSorted
  simp only [List.pairwise_append, List.pairwise_cons, List.mem_append, List.mem_cons]
  show (KSorted K1 ∧ ((∀ x ∈ K2, ord pk < ord x) ∧ KSorted K2) ∧ ∀ x ∈ K1, ∀ y, y = pk ∨ y ∈ K2 → ord x < ord y) ∧
      (∀ k, k ∈ K1 ∨ k = pk ∨ k ∈ K2 → InB lo hi (ord k)) ∧
      OrdCh h C1 (ubs K1 (some (ord pk))) lo ∧ OrdCh h C2 (ubs K2 hi) (some (ord pk)) ↔ _
  constructor
  · rintro ⟨⟨s1, ⟨hpk, s2⟩, h12⟩, hB, c1, c2⟩
    exact ⟨⟨s1, fun k hk => (hB k (.inl hk)).cut_hi (h12 k hk pk (.inl rfl)), c1⟩,
      ⟨s2, fun k hk => (hB k (.inr (.inr hk))).cut_lo (Int.le_of_lt (hpk k hk)), c2⟩, hB pk (.inr (.inl rfl)), hpk⟩
  · rintro ⟨⟨s1, b1, c1⟩, ⟨s2, b2, c2⟩, bpk, hpk⟩
    refine ⟨⟨s1, ⟨hpk, s2⟩, ?_⟩, ?_, c1, c2⟩
    · intro x hx y hy
      have := (b1 x hx).lt_hi rfl
      rcases hy with rfl | hy
      · exact this
      · exact Int.lt_trans this (hpk y hy)
    · rintro k (hk | rfl | hk)
      · exact (b1 k hk).glue_hi fun u hu => Int.le_of_lt (bpk.lt_hi hu)
      · exact bpk
      · exact (b2 k hk).glue_lo fun _ => bpk.lo_le

end BPT
