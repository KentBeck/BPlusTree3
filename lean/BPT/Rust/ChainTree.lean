import BPT.Rust.ValidatorSound
/-
  Tree side of the detailed validator's soundness, for EVERY raw map: on a node-valid map `collect_leaf_ids`
  lists stored, non-underfull leaves whose key sets ascend from left to right.
-/
namespace BPT.Rust
open BPT RawMap
variable {K V : Type} [Keyed K]

/-- the keys stored in leaf slot `id` (`[]` if the slot is not allocated) -/
def keysOf (m : RawMap K V) (id : Nat) : List K := match m.getLeaf id with | some l => l.keys | none => []

theorem keysOf_some (m : RawMap K V) (id : Nat) (l : RLeaf K V) (h : m.getLeaf id = some l) : keysOf m id = l.keys := by
  unfold keysOf; rw [h]

/-- every key of leaf `a` is below every key of leaf `b` -/
def Before (m : RawMap K V) (a b : Nat) : Prop := ∀ x ∈ keysOf m a, ∀ y ∈ keysOf m b, ord x < ord y

/-- what the tree walk establishes about the leaf ids it lists.  `strict`: whether the occupancy test applies; it does
    not to a root leaf, the one node `check_node_invariants` exempts and the only listed leaf that may be empty. -/
structure LeavesOK (m : RawMap K V) (lo hi : Option K) (strict : Prop) (L : List Nat) : Prop where
  ne : L ≠ []
  good : ∀ id ∈ L, ∃ l, m.getLeaf id = some l ∧ l.keys.length = l.vals.length ∧ KSorted l.keys ∧
    (strict → ¬ l.keys.length < minKeys l.cap)
  pw : L.Pairwise (Before m)
  lob : ∀ a, lo = some a → ∀ id ∈ L, ∀ k ∈ keysOf m id, ord a ≤ ord k
  hib : ∀ b, hi = some b → ∀ id ∈ L, ∀ k ∈ keysOf m id, ord k < ord b

/-- every stored leaf has room for at least two keys, so "not underfull" means "not empty" -/
def CapsOK (m : RawMap K V) : Prop := ∀ id l, m.getLeaf id = some l → 2 ≤ l.cap

theorem capsOK_of_caps {m : RawMap K V} (hcap : ∀ id l, m.getLeaf id = some l → l.cap = m.cap) (h2 : 2 ≤ m.cap) : CapsOK m :=
  fun id l hg => hcap id l hg ▸ h2

variable {m : RawMap K V} {lo hi : Option K} {L : List Nat}

theorem LeavesOK.exists_key (hc : CapsOK m) (h : LeavesOK m lo hi True L) : ∀ id ∈ L, ∃ k, k ∈ keysOf m id := by
  intro id hid
  obtain ⟨l, hg, _, _, hne⟩ := h.good id hid
  have h2 : 0 < l.cap / 2 := (Nat.le_div_iff_mul_le (by decide)).2 (hc id l hg)
  have hlen : ¬ l.keys.length < l.cap / 2 := hne trivial
  rw [keysOf_some m id l hg]
  cases hk : l.keys with
  | nil => rw [hk] at hlen; exact absurd h2 hlen
  | cons k _ => exact ⟨k, List.mem_cons_self⟩

theorem LeavesOK.imp_strict {p q : Prop} (hpq : q → p) (h : LeavesOK m lo hi p L) : LeavesOK m lo hi q L :=
  ⟨h.ne, fun id hid => let ⟨l, a1, a2, a3, a4⟩ := h.good id hid; ⟨l, a1, a2, a3, fun hq => a4 (hpq hq)⟩, h.pw, h.lob, h.hib⟩

theorem LeavesOK.some_key (hc : CapsOK m) (h : LeavesOK m lo hi True L) : ∃ id ∈ L, ∃ k, k ∈ keysOf m id := by
  cases hL : L with
  | nil => exact absurd hL h.ne
  | cons x _ => exact ⟨x, List.mem_cons_self, h.exists_key hc x (hL ▸ List.mem_cons_self)⟩

/-- the outer bounds reach the other run through a stored key (`lo ≤ k < s` for a `k` of the first run): the validator
    never compares a separator with the bounds of its own node -/
theorem LeavesOK.append (hc : CapsOK m) {s : K} {L₁ L₂ : List Nat} (h₁ : LeavesOK m lo (some s) True L₁)
    (h₂ : LeavesOK m (some s) hi True L₂) : LeavesOK m lo hi True (L₁ ++ L₂) := by
  obtain ⟨x₁, hx₁, k₁, hk₁⟩ := h₁.some_key hc
  obtain ⟨x₂, hx₂, k₂, hk₂⟩ := h₂.some_key hc
  have below := h₁.hib s rfl
  have above := h₂.lob s rfl
  refine ⟨fun hnil => h₁.ne (List.append_eq_nil_iff.1 hnil).1, ?_, ?_, ?_, ?_⟩
  · intro id hid
    rcases List.mem_append.1 hid with hid | hid
    · exact h₁.good id hid
    · exact h₂.good id hid
  · refine List.pairwise_append.2 ⟨h₁.pw, h₂.pw, ?_⟩
    intro x hx y hy kx hkx ky hky
    have := below x hx kx hkx
    have := above y hy ky hky
    omega
  · intro a ha id hid k hk
    rcases List.mem_append.1 hid with hid | hid
    · exact h₁.lob a ha id hid k hk
    · have := h₁.lob a ha x₁ hx₁ k₁ hk₁
      have := below x₁ hx₁ k₁ hk₁
      have := above id hid k hk
      omega
  · intro b hb id hid k hk
    rcases List.mem_append.1 hid with hid | hid
    · have := below id hid k hk
      have := above x₂ hx₂ k₂ hk₂
      have := h₂.hib b hb x₂ hx₂ k₂ hk₂
      omega
    · exact h₂.hib b hb id hid k hk

theorem LeavesOK.flatMap (hc : CapsOK m) {α : Type} (g : α → List Nat) (keys : List K) : ∀ (cs : List α) (lo : Option K),
    keys.length + 1 = cs.length →
    (∀ i c, cs[i]? = some c → LeavesOK m (if i = 0 then lo else keys[i-1]?) (if i = keys.length then hi else keys[i]?) True (g c)) →
    LeavesOK m lo hi True (cs.flatMap g) := by
  induction keys with
  | nil =>
    intro cs lo hlen h
    obtain ⟨c, rfl⟩ := List.length_eq_one_iff.1 hlen.symm
    rw [List.flatMap_singleton]; exact h 0 c rfl
  | cons s keys ih =>
    intro cs lo hlen h
    obtain ⟨c, cs, rfl⟩ := List.exists_cons_of_length_eq_add_one hlen.symm
    rw [List.flatMap_cons]
    refine LeavesOK.append hc (h 0 c rfl) (ih cs (some s) (Nat.succ.inj hlen) ?_)
    intro i c' hc'
    have := h (i+1) c' hc'
    simp only [Nat.add_one_ne_zero, if_false, Nat.add_sub_cancel, List.length_cons, Nat.add_right_cancel_iff] at this
    -- `(s :: keys)[i]?` against `if i = 0 then some s else keys[i-1]?`: equal by computation once `i` is `0` or a successor
    cases i with
    | zero => exact this
    | succ j => exact this

theorem Walk.leavesOK (hc : CapsOK m) {f : Nat} {n : NodeRef} {B : List Nat} (hw : Walk m f n L B) :
    ∀ {lo hi : Option K} {r : Bool}, NodeOK m n lo hi r → LeavesOK m lo hi (r = false ∨ ∃ id, n = .branch id) L := by
  induction hw with
  | leaf f id =>
    intro lo hi r hok
    cases hok with
    | leaf _ l _ _ _ hg h1 h2 _ h4 h5 h6 =>
      have hk := keysOf_some m id l hg
      refine ⟨by simp, ?_, by simp, ?_, ?_⟩
      · intro x hx
        cases List.mem_singleton.1 hx
        exact ⟨l, hg, h1, h2, fun hs => h4 (hs.resolve_right nofun)⟩
      · intro a ha x hx
        cases List.mem_singleton.1 hx
        rw [hk]; exact h5 a ha
      · intro b hb x hx
        cases List.mem_singleton.1 hx
        rw [hk]; exact h6 b hb
  | dangling f id hg => intro _ _ _ hok; cases hok with | branch _ _ _ _ _ hg' => rw [hg] at hg'; cases hg'
  | branch f id b gl gb hg _ ih =>
    intro lo hi r hok
    cases hok with
    | branch _ b' _ _ _ hg' h1 _ _ _ hch =>
      cases hg.symm.trans hg'
      refine (LeavesOK.flatMap hc gl b.keys b.children lo h1 fun i c hci => ?_).imp_strict fun _ => trivial
      exact (ih c (List.mem_of_getElem? hci) (hch i c hci)).imp_strict fun _ => Or.inl rfl

/-- the leaf ids listed under a node-valid node -/
theorem leafIdsFrom_ok (m : RawMap K V) (hc : CapsOK m) : ∀ (f : Nat) (n : NodeRef) (lo hi : Option K) (r : Bool) (L : List Nat),
    m.leafIdsFrom f n = .ok L → NodeOK m n lo hi r →
    LeavesOK m lo hi (r = false ∨ ∃ id, n = .branch id) L :=
  fun _ _ _ _ _ _ h hok => let ⟨_, hw⟩ := Walk.of_leafIds h; hw.leavesOK hc hok

end BPT.Rust
