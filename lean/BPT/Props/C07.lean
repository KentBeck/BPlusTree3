import BPT.Py.ApiSpec
/-
  C07 — the pure-Python BPlusTreeMap behaves like `dict` for every call history.

  The specification is the sorted association list `abs s` with `SMap.insert / erase / lookup`; `None` is
  just a value of `V`.  The theorems are about the code as repaired: `Cfg.repaired` sets the model's two
  switches, D6 (`get`) and D8 (empty branch), tied to the source in TiePy; for D6b (`del` of a key whose
  value is `None`) and D7 (`len`) the model has the repaired code only.
  Partial: "len works for any number of entries" is about the interpreter stack; tied by
  `TiePy.py_len_iterative_eq` (`__len__` is a loop that calls no recursive helper) and the
  `len()` on the trees the `py-deep` suite builds (`gen_deep`: `2500*cap//2` entries at capacity 4 and 5, 12 000 at 16).
-/
namespace BPT.Props.C07
open BPT BPT.Py Tree

variable {K V : Type} [Keyed K]

/-- one call answers as the specification and raises nothing but KeyError -/
theorem step_refines (isNone : V → Bool) (s : PState K V) (op : Op K V) (hi : PInv s) :
    ∃ s', step Cfg.repaired isNone s op = .ok (s', (specStep (abs s) op).2) ∧ PInv s' ∧
      abs s' = (specStep (abs s) op).1 ∧ s'.cap = s.cap :=
  step_spec isNone s op hi

/-- a history on the model -/
def run (isNone : V → Bool) : PState K V → List (Op K V) → Res (PState K V × List (Out K V))
  | s, [] => .ok (s, [])
  | s, op :: ops => (step Cfg.repaired isNone s op).bind fun r => (run isNone r.1 ops).map fun q => (q.1, r.2 :: q.2)

/-- the same history on the specification -/
def specRun : List (K × V) → List (Op K V) → List (K × V) × List (Out K V)
  | m, [] => (m, [])
  | m, op :: ops => ((specRun (specStep m op).1 ops).1, (specStep m op).2 :: (specRun (specStep m op).1 ops).2)

theorem run_refines (isNone : V → Bool) (ops : List (Op K V)) : ∀ (s : PState K V), PInv s →
    ∃ s', run isNone s ops = .ok (s', (specRun (abs s) ops).2) ∧ PInv s' ∧ abs s' = (specRun (abs s) ops).1 := by
  induction ops with
  | nil => intro s hi; exact ⟨s, rfl, hi, rfl⟩
  | cons op ops ih =>
    intro s hi
    obtain ⟨s1, he, hi1, ha1, _⟩ := step_refines isNone s op hi
    obtain ⟨s', h1, h2, h3⟩ := ih s1 hi1
    refine ⟨s', ?_, h2, ?_⟩
    · simp only [run, he, Res.bind_ok, h1, Res.map_ok, specRun, ha1]
    · simp only [specRun]; rw [← ha1]; exact h3

/-- **C07**: every call history on `BPlusTreeMap(cap)`, `cap ≥ 4`, answers what the reference answers
    (KeyErrors included) and raises nothing else -/
theorem refines_dict (isNone : V → Bool) (cap : Nat) (hcap : 4 ≤ cap) (ops : List (Op K V)) :
    ∃ s0 s', (new cap : Option (PState K V)) = some s0 ∧
      run isNone s0 ops = .ok (s', (specRun [] ops).2) ∧ PInv s' ∧ abs s' = (specRun [] ops).1 := by
  obtain ⟨s0, h0, hinv0, habs0, _⟩ := pinv_new (K := K) (V := V) cap hcap
  obtain ⟨s', h1, h2, h3⟩ := run_refines isNone ops s0 hinv0
  rw [habs0] at h1 h3
  exact ⟨s0, s', h0, h1, h2, h3⟩

/-- `InvalidCapacityError` exactly below capacity 4 -/
theorem capacity_guard (cap : Nat) : (new cap : Option (PState K V)) = none ↔ cap < 4 := new_rejects cap

/-- D6: a stored value is returned whatever it is, also when `isNone` calls it `None` -/
theorem get_returns_stored (isNone : V → Bool) (s : PState K V) (hi : PInv s) (k : K) (d : V) (p : K × V)
    (hp : SMap.lookup (abs s) k = some p) : get Cfg.repaired isNone s k d = some p.2 := by
  rw [get_spec isNone s hi k d, hp]

/-- for an absent key `get` returns the default -/
theorem get_default_iff_absent (isNone : V → Bool) (s : PState K V) (hi : PInv s) (k : K) (d : V)
    (hp : SMap.lookup (abs s) k = none) : get Cfg.repaired isNone s k d = some d := by
  rw [get_spec isNone s hi k d, hp]

/-- `popitem` removes the entry with the smallest key -/
theorem popitem_removes_smallest (s : PState K V) (hi : PInv s) (p : K × V) (rest : List (K × V))
    (hm : abs s = p :: rest) :
    (specStep (abs s) (.popitem : Op K V)) = (rest, .item p.1 p.2) ∧ ∀ q ∈ rest, ord p.1 < ord q.1 := by
  refine ⟨by rw [hm]; rfl, ?_⟩
  have := abs_sorted s hi
  rw [hm] at this
  exact (List.pairwise_cons.1 this).1

/-- after `del m[k]` / `pop(k)` the key is absent -/
theorem deleted_key_absent (m : List (K × V)) (k : K) (hs : SMap.Sorted m) : SMap.lookup (SMap.erase m k) k = none :=
  SMap.lookup_erase_self m k hs

/-- `len` moves by one exactly when the key set changes -/
theorem len_after_assign (m : List (K × V)) (k : K) (v : V) (hs : SMap.Sorted m) :
    (SMap.insert m k v).length = if (SMap.lookup m k).isSome then m.length else m.length + 1 :=
  SMap.length_insert m k v hs

theorem len_after_delete (m : List (K × V)) (k : K) :
    (SMap.erase m k).length = if (SMap.lookup m k).isSome then m.length - 1 else m.length :=
  SMap.length_erase m k

/-- keys are unique -/
theorem abs_strictly_ascending (s : PState K V) (hi : PInv s) : SMap.Sorted (abs s) := abs_sorted s hi

/-- the model is purely functional; aliasing of the real objects is checked by the harness -/
theorem copy_same_contents (isNone : V → Bool) (s : PState K V) (hi : PInv s) :
    ∃ s', step Cfg.repaired isNone s (.copy : Op K V) = .ok (s', .unit) ∧ PInv s' ∧ abs s' = abs s ∧ s'.cap = s.cap :=
  step_refines isNone s .copy hi

namespace Legacy
/-- D6 on the pre-repair model: a stored `None` makes `get(key, default)` return the default -/
theorem get_none_returns_default :
    let s : PState Int (Option Nat) := { cap := 4, height := 0, root := ({ id := 1, keys := [1], vals := [none], next := 0 } : Leaf Int (Option Nat)), head := 1, nextId := 2 }
    get { getChecksPresence := false } (fun v => v.isNone) s 1 (some 7) = some (some 7) ∧
    get Cfg.repaired (fun v => v.isNone) s 1 (some 7) = some none := by
  decide
end Legacy

/-- non-vacuity: leaf split, deletion and the derived calls -/
example : ∃ s0 s', (new 4 : Option (PState Int Nat)) = some s0 ∧
    run (fun _ => false) s0 [.set 1 10, .set 2 20, .set 3 30, .set 4 40, .set 5 50, .del 2, .popitem, .len] =
      .ok (s', [.unit, .unit, .unit, .unit, .unit, .unit, .item 1 10, .nat 3]) := by
  obtain ⟨s0, s', h0, h1, _, _⟩ := refines_dict (K := Int) (V := Nat) (fun _ => false) 4 (by omega)
    [.set 1 10, .set 2 20, .set 3 30, .set 4 40, .set 5 50, .del 2, .popitem, .len]
  refine ⟨s0, s', h0, ?_⟩
  rw [h1]
  rfl

end BPT.Props.C07
