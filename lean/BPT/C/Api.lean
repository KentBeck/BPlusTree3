import BPT.C.Model
/-
  The package-level `BPlusTreeMap` wrapper over the C type (python/bplustree/__init__.py):
  get, pop, popitem, setdefault, update, copy, clear as compositions of the
  C type's mapping protocol.  Import-free apart from the model.
-/
namespace BPT.C
open BPT

variable {K V : Type} [Keyed K]

/-- `get(key, default)`: `try: return self[key] except KeyError: return default` -/
def wget (s : CState K V) (k : K) (d : V) : Res V :=
  (getitem s k).map fun r => match r.1 with | some v => v | none => d

/-- `pop(key[, default])`: result `none` = KeyError -/
def wpop (s : CState K V) (k : K) (d : Option V) : Res (CState K V × Option V) :=
  (getitem s k).bind fun r =>
    match r.1 with
    | none => .ok (s, d)
    | some v =>
      (delitem s k).map fun q =>
        match q with
        | some (s', _) => (s', some v)
        | none => (s, d)                              -- `del` raised KeyError inside the `try`

/-- first entry the `items()` iterator yields -/
def firstItem (s : CState K V) : Res (Option (K × V)) :=
  (iterNext s (iterNew s true)).map fun r => match r.2 with | .item k v => some (k, v) | _ => none

/-- `popitem()`: result `none` = KeyError("popitem(): tree is empty") -/
def wpopitem (s : CState K V) : Res (CState K V × Option (K × V)) :=
  (firstItem s).bind fun f =>
    match f with
    | none => .ok (s, none)
    | some (k, v) =>
      (delitem s k).map fun q =>
        match q with
        | some (s', _) => (s', some (k, v))
        | none => (s, none)                           -- swallowed by the bare `except`

/-- `setdefault(key, default)` -/
def wsetdefault (cfg : Cfg) (s : CState K V) (k : K) (d : V) : Res (CState K V × V) :=
  (getitem s k).bind fun r =>
    match r.1 with
    | some v => .ok (s, v)
    | none => (setitem cfg s k d).map fun q => (q.1, d)

/-- `update(pairs)` -/
def wupdate (cfg : Cfg) (s : CState K V) (its : List (K × V)) : Res (CState K V) :=
  its.foldl (fun acc kv => acc.bind fun s => (setitem cfg s kv.1 kv.2).map (·.1)) (.ok s)

/-- the wrapper's `capacity` property is the constant 8 -/
def wrapperCapacity : Nat := 8

/-- `copy()`: `BPlusTreeMap(capacity=self.capacity)` filled from `items()` -/
def wcopy (cfg : Cfg) (s : CState K V) : Res (CState K V) :=
  (items s).bind fun its =>
    match (new cfg wrapperCapacity : Option (CState K V)) with
    | none => .panic
    | some s0 => wupdate cfg s0 its

/-- first key the `keys()` iterator yields -/
def firstKey (s : CState K V) : Res (Option K) :=
  (iterNext s (iterNew s false)).map fun r => match r.2 with | .key k => some k | _ => none

/-- `clear()`: `while len(self) > 0: for key in self.keys(): del self[key]; break` (fuel = size + 1) -/
def wclear : Nat → CState K V → Res (CState K V)
  | 0, _ => .diverge
  | f+1, s =>
    if s.size = 0 then .ok s
    else (firstKey s).bind fun fk =>
      match fk with
      | none => wclear f s                            -- the `for` loop body never ran; `while` spins
      | some k => (delitem s k).bind fun q =>
          match q with
          | some (s', _) => wclear f s'
          | none => .panic                            -- KeyError escapes `clear`

end BPT.C
