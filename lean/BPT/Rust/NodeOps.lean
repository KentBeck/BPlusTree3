import BPT.Core.Recut
import BPT.Rust.Model
/-
  The node-level borrow and merge functions of the model: what any result keeps of the nodes' identity (`*_some`),
  and that a borrow between two neighbours succeeds and re-cuts them (`*_cut`: a `Cut` becomes a `Cut` around the new
  separator, with the same entries).  No occupancy here.  Python's borrows are these functions (`rfl`, Py/Rebalance),
  its merges are others.
-/
namespace BPT.Rust
open BPT Tree
variable {K V : Type}

def SameLink (x' x : Leaf K V) : Prop := x'.id = x.id ∧ x'.next = x.next

theorem leafBorrowLeft_some {a c a' c' : Leaf K V} {k : K} (h : leafBorrowLeft a c = some (a', c', k)) :
    SameLink a' a ∧ SameLink c' c := by
  unfold leafBorrowLeft at h
  split at h
  · cases h; exact ⟨⟨rfl, rfl⟩, rfl, rfl⟩
  · cases h

theorem leafBorrowRight_some {c r c' r' : Leaf K V} {k : Option K} (h : leafBorrowRight c r = some (c', r', k)) :
    SameLink c' c ∧ SameLink r' r := by
  unfold leafBorrowRight at h
  split at h
  · cases h; exact ⟨⟨rfl, rfl⟩, rfl, rfl⟩
  · cases h

theorem leafMerge_some {cap : Nat} {a c m : Leaf K V} (h : leafMerge cap a c = some m) : m.id = a.id ∧ m.next = c.next := by
  unfold leafMerge at h
  split at h
  · cases h; exact ⟨rfl, rfl⟩
  · cases h

theorem branchBorrowLeft_some {α : Type} {a c a' c' : Branch K α} {sep k : K} (h : branchBorrowLeft a c sep = some (a', c', k)) :
    a'.id = a.id ∧ c'.id = c.id ∧ a'.children ++ c'.children = a.children ++ c.children := by
  unfold branchBorrowLeft at h
  split at h
  · rename_i mk mc _ hmc
    cases h
    refine ⟨rfl, rfl, ?_⟩
    show a.children.dropLast ++ mc :: c.children = _
    conv => rhs; rw [← dropLast_append_getLast? hmc]
    simp
  · cases h

theorem branchBorrowRight_some {α : Type} {c r c' r' : Branch K α} {sep k : K} (h : branchBorrowRight c r sep = some (c', r', k)) :
    c'.id = c.id ∧ r'.id = r.id ∧ c'.children ++ r'.children = c.children ++ r.children := by
  unfold branchBorrowRight at h
  split at h
  · rename_i mk ks mc cs _ hrc
    cases h
    refine ⟨rfl, rfl, ?_⟩
    show (c.children ++ [mc]) ++ cs = _
    rw [hrc]; simp
  · cases h

theorem branchMergeNodes_some {α : Type} {cap : Nat} {a c m : Branch K α} {sep : K} (h : branchMergeNodes cap a c sep = some m) :
    m.id = a.id ∧ m.children = a.children ++ c.children := by
  unfold branchMergeNodes at h
  split at h
  · cases h; exact ⟨rfl, rfl⟩
  · cases h

variable [Keyed K]

theorem leafBorrowLeft_cut (a c : Leaf K V) {lo hi : Option Int} (s : K) (hac : Cut 0 lo hi (a : Tree K V 0) s c)
    (h0 : 0 < a.keys.length) :
    ∃ a' c' k, leafBorrowLeft a c = some (a', c', k) ∧ Cut 0 lo hi (a' : Tree K V 0) k c' ∧
      toList 0 (a' : Tree K V 0) ++ toList 0 (c' : Tree K V 0) = toList 0 (a : Tree K V 0) ++ toList 0 (c : Tree K V 0) ∧
      a'.keys.length = a.keys.length - 1 ∧ c'.keys.length = c.keys.length + 1 := by
  have hal := hac.left.leaf_lens
  obtain ⟨k, hk, hks⟩ := exists_getLast? a.keys h0
  obtain ⟨v, hv, hvs⟩ := exists_getLast? a.vals (hal ▸ h0)
  obtain ⟨hcut, hlist⟩ := leaf_recut a c { a with keys := a.keys.dropLast, vals := a.vals.dropLast }
    { c with keys := k :: c.keys, vals := v :: c.vals } lo hi s k hac
    (show a.keys.dropLast ++ k :: c.keys = _ by rw [List.append_cons, hks])
    (show a.vals.dropLast ++ v :: c.vals = _ by rw [List.append_cons, hvs])
    (by simp [hal]) rfl
  exact ⟨_, _, k, by simp [leafBorrowLeft, hk, hv], hcut, hlist, List.length_dropLast, rfl⟩

/-- the first key of `r` moves; the new separator is the key behind it, whence two keys -/
theorem leafBorrowRight_cut (c r : Leaf K V) {lo hi : Option Int} (s : K) (hcr : Cut 0 lo hi (c : Tree K V 0) s r)
    (hr2 : 2 ≤ r.keys.length) :
    ∃ c' r' k, leafBorrowRight c r = some (c', r', some k) ∧ Cut 0 lo hi (c' : Tree K V 0) k r' ∧
      toList 0 (c' : Tree K V 0) ++ toList 0 (r' : Tree K V 0) = toList 0 (c : Tree K V 0) ++ toList 0 (r : Tree K V 0) ∧
      c'.keys.length = c.keys.length + 1 ∧ r'.keys.length = r.keys.length - 1 := by
  have hcl := hcr.left.leaf_lens
  have hrl := hcr.right.leaf_lens
  obtain ⟨k0, k1, ks, hrk⟩ := exists_cons_cons hr2
  obtain ⟨v0, vs, hrv⟩ := List.exists_cons_of_length_pos (show 0 < r.vals.length from hrl ▸ Nat.lt_of_lt_of_le (by decide) hr2)
  obtain ⟨hcut, hlist⟩ := leaf_recut c r { c with keys := c.keys ++ [k0], vals := c.vals ++ [v0] } { r with keys := k1 :: ks, vals := vs }
    lo hi s k1 hcr (by simp [hrk]) (by simp [hrv]) (by simp [hcl]) rfl
  exact ⟨_, _, k1, by simp [leafBorrowRight, hrk, hrv], hcut, hlist, by simp, by simp [hrk]⟩

/-- `hch`: the separator that comes down stands strictly below the keys of `c` (`branch_recut`) -/
theorem branchBorrowLeft_cut (h : Nat) (a c : Branch K (Tree K V h)) {lo hi : Option Int} (sep : K)
    (hac : Cut (h+1) lo hi (a : Tree K V (h+1)) sep c) (hch : ∀ x ∈ c.children, 1 ≤ nkeys h x) (h0 : 0 < a.keys.length) :
    ∃ a' c' mk, branchBorrowLeft a c sep = some (a', c', mk) ∧ Cut (h+1) lo hi (a' : Tree K V (h+1)) mk c' ∧
      toList (h+1) (a' : Tree K V (h+1)) ++ toList (h+1) (c' : Tree K V (h+1)) = toList (h+1) (a : Tree K V (h+1)) ++ toList (h+1) (c : Tree K V (h+1)) ∧
      a'.children ++ c'.children = a.children ++ c.children ∧
      a'.keys.length = a.keys.length - 1 ∧ c'.keys.length = c.keys.length + 1 := by
  have hal := hac.left.arity
  obtain ⟨mk, hmk, hks⟩ := exists_getLast? a.keys h0
  obtain ⟨mc, hmc, _⟩ := exists_getLast? a.children (hal ▸ Nat.succ_pos _)
  have he : branchBorrowLeft a c sep = some ({ a with keys := a.keys.dropLast, children := a.children.dropLast },
      { c with keys := sep :: c.keys, children := mc :: c.children }, mk) := by simp [branchBorrowLeft, hmk, hmc]
  have hcc := (branchBorrowLeft_some he).2.2
  obtain ⟨hcut, hlist⟩ := branch_recut h a c lo hi sep mk hac hch
    (show a.keys.dropLast ++ mk :: sep :: c.keys = _ by rw [List.append_cons, hks]) hcc
    (show a.children.dropLast.length = a.keys.dropLast.length + 1 by
      rw [List.length_dropLast, List.length_dropLast, hal, Nat.add_sub_cancel, Nat.sub_add_cancel h0])
  exact ⟨_, _, mk, he, hcut, hlist, hcc, List.length_dropLast, rfl⟩

theorem branchBorrowRight_cut (h : Nat) (c r : Branch K (Tree K V h)) {lo hi : Option Int} (sep : K)
    (hcr : Cut (h+1) lo hi (c : Tree K V (h+1)) sep r) (hch : ∀ x ∈ r.children, 1 ≤ nkeys h x) (h0 : 0 < r.keys.length) :
    ∃ c' r' mk, branchBorrowRight c r sep = some (c', r', mk) ∧ Cut (h+1) lo hi (c' : Tree K V (h+1)) mk r' ∧
      toList (h+1) (c' : Tree K V (h+1)) ++ toList (h+1) (r' : Tree K V (h+1)) = toList (h+1) (c : Tree K V (h+1)) ++ toList (h+1) (r : Tree K V (h+1)) ∧
      c'.children ++ r'.children = c.children ++ r.children ∧
      c'.keys.length = c.keys.length + 1 ∧ r'.keys.length = r.keys.length - 1 := by
  have hcl := hcr.left.arity
  have hrl := hcr.right.arity
  obtain ⟨mk, ks, hrk⟩ := List.exists_cons_of_length_pos h0
  obtain ⟨mc, cs, hrc⟩ := List.exists_cons_of_length_pos (show 0 < r.children.length from hrl ▸ Nat.succ_pos _)
  have he : branchBorrowRight c r sep = some ({ c with keys := c.keys ++ [sep], children := c.children ++ [mc] },
      { r with keys := ks, children := cs }, mk) := by simp [branchBorrowRight, hrk, hrc]
  have hcc := (branchBorrowRight_some he).2.2
  obtain ⟨hcut, hlist⟩ := branch_recut h c r lo hi sep mk hcr hch (by simp [hrk]) hcc (by simp [hcl])
  exact ⟨_, _, mk, he, hcut, hlist, hcc, by simp, by simp [hrk]⟩

end BPT.Rust
