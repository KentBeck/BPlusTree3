import BPT.Core.OrdSeq
/- Surgery on (keys, children) and its effect on `Ordered`: one lemma (`ordered_splice_at`) of which replacing,
   splitting and merging children are instances. -/
namespace BPT
variable {K V : Type} [Keyed K]
open Tree

/- The four surgeries as the proofs speak of them.  The models, which cannot import this file, write the same
   take/drop forms out (`Rust.branchSplit1`, `branchReplace2`, `branchMerge2`, `Py.replace2`, `Py.merge2`); the two are
   equal by `rfl` (stated where a rewrite needs it: `Rust.branchReplace2_eq`, `branchMerge2_eq`, `Py.replace2_eq`). -/
/-- child `i` replaced by `c` -/
def Branch.replace1 (b : Branch K α) (i : Nat) (c : α) : Branch K α :=
  { b with children := setAt b.children i c }
/-- child `i` replaced by `l`, `r` with the new separator `sep` between them -/
def Branch.split1 (b : Branch K α) (i : Nat) (l r : α) (sep : K) : Branch K α :=
  { b with keys := insertAt b.keys i sep, children := insertAt (setAt b.children i l) (i+1) r }
/-- children `i`, `i+1` replaced by `l`, `r` and the separator between them by `sep` (a borrow) -/
def Branch.replace2 (b : Branch K α) (i : Nat) (l r : α) (sep : K) : Branch K α :=
  { b with keys := setAt b.keys i sep, children := setAt (setAt b.children i l) (i+1) r }
/-- children `i`, `i+1` replaced by `m`, the separator between them removed (a merge) -/
def Branch.merge2 (b : Branch K α) (i : Nat) (m : α) : Branch K α :=
  { b with keys := removeAt b.keys i, children := removeAt (setAt b.children i m) (i+1) }

section
omit [Keyed K]

theorem Branch.flatMap_replace1 {α β : Type} (g : α → List β) (b : Branch K α) (i : Nat) (c' : α) :
    (b.replace1 i c').children.flatMap g = (b.children.take i).flatMap g ++ g c' ++ (b.children.drop (i+1)).flatMap g :=
  flatMap_setAt g b.children i c'

theorem Branch.flatMap_replace1_eq {α β : Type} (g : α → List β) {b : Branch K α} {i : Nat} {c c' : α}
    (hc : b.children[i]? = some c) (e : g c' = g c) : (b.replace1 i c').children.flatMap g = b.children.flatMap g := by
  rw [Branch.flatMap_replace1, e, ← flatMap_split g hc]

theorem Branch.replace1_self {α : Type} {b : Branch K α} {i : Nat} {c : α} (hc : b.children[i]? = some c) : b.replace1 i c = b := by
  unfold Branch.replace1; rw [setAt_eq_self hc]

theorem Branch.flatMap_split1 {α β : Type} (g : α → List β) (b : Branch K α) {i : Nat} (l r : α) (sep : K)
    (hi : i < b.children.length) :
    (b.split1 i l r sep).children.flatMap g =
      (b.children.take i).flatMap g ++ (g l ++ g r) ++ (b.children.drop (i+1)).flatMap g :=
  BPT.flatMap_split1 g hi

theorem Branch.mem_replace1 {α : Type} (b : Branch K α) (i : Nat) (c' x : α) (h : x ∈ (b.replace1 i c').children) :
    x = c' ∨ x ∈ b.children :=
  eq_or_mem_of_mem_setAt b.children i c' x h

theorem Branch.mem_split1 {α : Type} (b : Branch K α) (i : Nat) (l r : α) (sep : K) (x : α)
    (h : x ∈ (b.split1 i l r sep).children) : x = l ∨ x = r ∨ x ∈ b.children :=
  (mem_insertAt.1 h).elim (fun h => Or.inr (Or.inl h)) fun h =>
    (eq_or_mem_of_mem_setAt b.children i l x h).elim Or.inl fun h => Or.inr (Or.inr h)

@[simp] theorem Branch.replace1_children {α : Type} (b : Branch K α) (i : Nat) (c : α) :
    (b.replace1 i c).children = setAt b.children i c := rfl

end

/-- Children `i .. i+n` of `b` and the `n` keys between them are replaced by the keys and children of an ordered node
    within `loAt i`, `hiAt (i+n)`.  `hlt`: `InB` bounds the new keys only weakly from below. -/
theorem ordered_splice_at (h : Nat) (b : Branch K (Tree K V h)) (lo hi : Option Int) (i n id' : Nat)
    (km' : List K) (M' : List (Tree K V h))
    (hb : Ordered (h+1) b lo hi) (hin : i + n < b.children.length)
    (hm : Ordered (h+1) ({ id := id', keys := km', children := M' } : Branch K (Tree K V h)) (loAt b.keys lo i) (hiAt b.keys hi (i+n)))
    (hlt : ∀ x ∈ b.keys.take i, ∀ k ∈ km', ord x < ord k) :
    Ordered (h+1) ({ id := b.id, keys := b.keys.take i ++ km' ++ b.keys.drop (i+n),
                     children := b.children.take i ++ M' ++ b.children.drop (i+n+1) } : Branch K (Tree K V h)) lo hi := by
  have hlen := hb.arity
  rw [← loAt_take_length (by omega), ← hiAt_drop_zero (by omega)] at hm
  -- `b` seen around children `i .. i+n`
  refine ordered_splice h b id' ((b.keys.drop i).take n) km' ((b.children.drop i).take (n+1)) M' lo hi
    take_take_drop.symm take_take_drop.symm ?_ ?_ hb hm hlt
  · rw [List.length_take_of_le (by omega), List.length_take_of_le (by omega)]
  · rw [List.length_take_of_le (by rw [List.length_drop]; omega), List.length_take_of_le (by rw [List.length_drop]; omega)]

theorem ordered_one (h : Nat) (id : Nat) (c : Tree K V h) {lo hi : Option Int} :
    Ordered (h+1) ({ id := id, keys := [], children := [c] } : Branch K (Tree K V h)) lo hi ↔ Ordered h c lo hi := by
  simp [ordered_succ_iff, ubs, OrdCh, KSorted]

theorem ordered_single {h : Nat} {b : Branch K (Tree K V h)} {lo hi : Option Int} {c : Tree K V h}
    (hb : Ordered (h+1) b lo hi) (hch : b.children = [c]) :
    Ordered h c lo hi ∧ ∀ {β : Type} (g : Tree K V h → List β), b.children.flatMap g = g c := by
  have hk : b.keys = [] := List.eq_nil_of_length_eq_zero (by have := hb.arity; rw [hch] at this; exact (Nat.succ.inj this).symm)
  have hc := hb.child (i := 0) (c := c) (by rw [hch]; rfl)
  rw [hk] at hc
  exact ⟨hc, fun g => by rw [hch]; simp⟩

theorem ordered_two (h : Nat) (id : Nat) (l r : Tree K V h) (sep : K) (lo hi : Option Int) :
    Ordered (h+1) ({ id := id, keys := [sep], children := [l, r] } : Branch K (Tree K V h)) lo hi ↔ Cut h lo hi l sep r := by
  simp only [ordered_succ_iff, ubs, OrdCh, KSorted, List.pairwise_singleton, List.mem_singleton, forall_eq, List.map_cons,
    List.map_nil, List.cons_append, List.nil_append, true_and, and_true]
  exact ⟨fun ⟨a, b, c⟩ => ⟨b, c, a⟩, fun ⟨b, c, a⟩ => ⟨a, b, c⟩⟩

theorem ordered_replace1 (h : Nat) (b : Branch K (Tree K V h)) (lo hi : Option Int) {i : Nat} (c : Tree K V h)
    (hb : Ordered (h+1) b lo hi) (hi' : i < b.children.length)
    (hc' : Ordered h c (loAt b.keys lo i) (hiAt b.keys hi i)) :
    Ordered (h+1) (b.replace1 i c) lo hi := by
  have := ordered_splice_at h b lo hi i 0 0 [] [c] hb hi' ((ordered_one h 0 c).2 hc') (fun _ _ _ hk => nomatch hk)
  simpa [Branch.replace1, setAt] using this

theorem ordered_merge2 (h : Nat) (b : Branch K (Tree K V h)) (lo hi : Option Int) (i : Nat) (m : Tree K V h)
    (hb : Ordered (h+1) b lo hi) (hi' : i + 1 < b.children.length)
    (hm : Ordered h m (loAt b.keys lo i) (hiAt b.keys hi (i+1))) :
    Ordered (h+1) (b.merge2 i m) lo hi := by
  have := ordered_splice_at h b lo hi i 1 0 [] [m] hb hi' ((ordered_one h 0 m).2 hm) (fun _ _ _ hk => nomatch hk)
  unfold Branch.merge2
  rw [removeAt_setAt_succ hi']
  simpa [removeAt] using this

theorem ordered_replace2 (h : Nat) (b : Branch K (Tree K V h)) (lo hi : Option Int) (i : Nat) (l r : Tree K V h) (sep : K)
    (hb : Ordered (h+1) b lo hi) (hi' : i + 1 < b.children.length)
    (hc : Cut h (loAt b.keys lo i) (hiAt b.keys hi (i+1)) l sep r) (hlt : ∀ x, loAt b.keys lo i = some x → x < ord sep) :
    Ordered (h+1) (b.replace2 i l r sep) lo hi := by
  have := ordered_splice_at h b lo hi i 1 0 [sep] [l, r] hb hi' ((ordered_two h 0 l r sep _ _).2 hc)
    (fun x hx k hk => by
      rw [List.mem_singleton.1 hk]; exact keys_take_lt_of_lo b.keys lo i _ hb.sorted (by have := hb.arity; omega) hlt x hx)
  unfold Branch.replace2
  rw [setAt_setAt_succ hi']
  simpa [setAt] using this

theorem ordered_split1 (h : Nat) (b : Branch K (Tree K V h)) (lo hi : Option Int) (i : Nat) (l r : Tree K V h) (sep : K)
    (hb : Ordered (h+1) b lo hi) (hi' : i < b.children.length)
    (hl : Ordered h l (loAt b.keys lo i) (some (ord sep)))
    (hr : Ordered h r (some (ord sep)) (hiAt b.keys hi i))
    (h1 : ∀ x ∈ b.keys.take i, ord x < ord sep) (h2 : ∀ x ∈ b.keys.drop i, ord sep < ord x)
    (hsepB : InB lo hi (ord sep)) :
    Ordered (h+1) (b.split1 i l r sep) lo hi := by
  have hik : i ≤ b.keys.length := by have := hb.arity; omega
  have hsep := hsepB.to_child hik hik (fun x hx => Int.le_of_lt (h1 x hx)) h2
  have := ordered_splice_at h b lo hi i 0 0 [sep] [l, r] hb hi' ((ordered_two h 0 l r sep _ _).2 ⟨hl, hr, hsep⟩)
    (fun x hx k hk => by rw [List.mem_singleton.1 hk]; exact h1 x hx)
  unfold Branch.split1
  rw [insertAt_setAt_eq hi']
  simpa [insertAt] using this

end BPT
