import BPT.Py.InsertRec
import BPT.Py.DeleteRec
/-
  The mutators keep `PInv`; their effect on the entry list `abs s`.
-/
namespace BPT.Py
open BPT Tree
open BPT.Rust (links links_succ links_zero ChainL firstOf)
variable {K V : Type} [Keyed K]

theorem pinv_emptyLeaf (cap id nid : Nat) (cache : Option Nat) (hcap : 4 ≤ cap) (h0 : 0 < id) (hlt : id < nid) :
    PInv ({ cap := cap, height := 0, root := (emptyLeaf id : Leaf K V), head := id, nextId := nid, cache := cache } : PState K V) ∧
    abs ({ cap := cap, height := 0, root := (emptyLeaf id : Leaf K V), head := id, nextId := nid, cache := cache } : PState K V) = [] := by
  refine ⟨⟨hcap, ⟨List.Pairwise.nil, rfl, fun _ h => by cases h⟩, ⟨Nat.zero_le _, Nat.zero_le _⟩, ⟨rfl, trivial⟩, rfl, ?_, ?_⟩, ?_⟩
  · simp [linkIds, links, leaves, Rust.link, emptyLeaf]
  · intro id' hid
    simp [linkIds, links, leaves, Rust.link, emptyLeaf] at hid
    subst hid; exact ⟨h0, hlt⟩
  · simp [abs, toList, leaves, emptyLeaf, Leaf.entries]

omit [Keyed K] in
theorem new_of_le (cap : Nat) (hcap : 4 ≤ cap) :
    (new cap : Option (PState K V)) = some { cap := cap, height := 0, root := (emptyLeaf 1 : Leaf K V), head := 1, nextId := 2 } :=
  if_neg (Nat.not_lt.2 hcap)

theorem pinv_new (cap : Nat) (hcap : 4 ≤ cap) :
    ∃ s : PState K V, new cap = some s ∧ PInv s ∧ abs s = [] ∧ s.cap = cap := by
  obtain ⟨h1, h2⟩ := pinv_emptyLeaf (K := K) (V := V) cap 1 2 none hcap (by decide) (by decide)
  exact ⟨_, new_of_le cap hcap, h1, h2, rfl⟩

omit [Keyed K] in
theorem new_rejects (cap : Nat) : (new cap : Option (PState K V)) = none ↔ cap < 4 := by
  refine ⟨fun h => Nat.lt_of_not_le fun hc => ?_, fun h => if_pos h⟩
  rw [new_of_le cap hc] at h; cases h

theorem clear_spec (s : PState K V) (hi : PInv s) : PInv (clear s) ∧ abs (clear s) = [] ∧ (clear s).cap = s.cap := by
  obtain ⟨h1, h2⟩ := pinv_emptyLeaf (K := K) (V := V) s.cap s.nextId (s.nextId + 1) none hi.cap4 hi.nextId_pos (Nat.lt_succ_self _)
  exact ⟨h1, h2, rfl⟩

theorem setitem_spec (s : PState K V) (k : K) (v : V) (hi : PInv s) :
    ∃ s', setitem s k v = some s' ∧ PInv s' ∧ abs s' = SMap.insert (abs s) k v ∧ s'.cap = s.cap := by
  obtain ⟨hcap, ho, hsz, hchain, hhead, hnodup, hfresh⟩ := hi
  obtain ⟨res, nid', he, hok, hlk⟩ := insertRec_spec s.cap hcap s.height s.root none none k v s.nextId (rootMin s.height)
    ho (inB_none) hsz (rootMin_le s.cap s.height hcap)
  obtain ⟨hc1, hc2⟩ := hlk.chain noneId hchain
  obtain ⟨hi1, hi2⟩ := hlk.ids hnodup hfresh
  unfold setitem
  rw [he]
  cases res with
  | updated t =>
    obtain ⟨h1, h2, h3⟩ := hok
    exact ⟨_, rfl, ⟨hcap, h1, h3, hc1, hhead.trans hc2.symm, hi1, hi2⟩, h2, rfl⟩
  | split l r sep =>
    obtain ⟨hl, hr, _, _, hlist, hsl, hsr⟩ := hok
    exact ⟨_, rfl, PInv.of_links (Rust.links_grow s.height l r sep 0) hcap ((ordered_two s.height 0 l r sep none none).2 ⟨hl, hr, inB_none⟩)
        ⟨by simp [rootMin], by show 1 + 1 ≤ s.cap; omega, forall_mem_two hsl hsr⟩ hc1 (hhead.trans hc2.symm) hi1 hi2,
      (toList_grow s.height l r sep 0).trans hlist, rfl⟩

theorem collapseRoot_spec (cap : Nat) (hcap : 4 ≤ cap) (h : Nat) (t : Tree K V h)
    (ho : Ordered h t none none) (hsz : PSized cap h t (rootMin h - 1)) :
    Ordered (collapseRoot h t).1 (collapseRoot h t).2 none none ∧
    PSized cap (collapseRoot h t).1 (collapseRoot h t).2 (rootMin (collapseRoot h t).1) ∧
    toList (collapseRoot h t).1 (collapseRoot h t).2 = toList h t ∧
    links (collapseRoot h t).1 (collapseRoot h t).2 = links h t := by
  cases h with
  | zero => exact ⟨ho, hsz.mono (Nat.zero_le _), rfl, rfl⟩
  | succ h =>
    cases hch : (Branch.children t) with
    | nil => exact absurd hch ho.children_ne_nil
    | cons c rest =>
      cases rest with
      | nil =>
        -- a single child becomes the root; inside the tree it met the minimum, which is at least the root's
        obtain ⟨hco, hflat⟩ := ordered_single (b := t) ho hch
        rw [show collapseRoot (h+1) t = ⟨h, c⟩ by simp [collapseRoot, hch]]
        exact ⟨hco, (hsz.children c (hch ▸ List.mem_cons_self)).mono (rootMin_le cap h hcap),
          (toList_succ h t ▸ hflat (toList h)).symm, (links_succ h t ▸ hflat (links h)).symm⟩
      | cons c2 rest2 =>
        rw [show collapseRoot (h+1) t = ⟨h+1, t⟩ by simp [collapseRoot, hch]]
        exact ⟨ho, ⟨ho.one_le_keys hch, hsz.2.1, hsz.2.2⟩, rfl, rfl⟩

theorem delitem_spec_cfg (cfg : Cfg) (s : PState K V) (k : K) (hi : PInv s) (hcfg : cfg.emptyShortcutLeafOnly = true ∨ 5 ≤ s.cap) :
    ∃ s', delitem cfg s k = some (s', (SMap.lookup (abs s) k).isSome) ∧ PInv s' ∧ abs s' = SMap.erase (abs s) k ∧
      s'.cap = s.cap ∧ s'.nextId = s.nextId := by
  obtain ⟨⟨t, b⟩, he, hp⟩ := deleteRec_spec_cfg cfg s.cap hi.cap4 hcfg s.height s.root none none k (rootMin s.height) hi.ord hi.sz
    (by unfold rootMin; split <;> simp [*])
  unfold delitem
  rw [he, show (SMap.lookup (abs s) k).isSome = b from hp.found.symm]
  cases b with
  | false =>
    obtain rfl : t = s.root := hp.same rfl
    exact ⟨_, rfl, hi, hp.list, rfl, rfl⟩
  | true =>
    obtain ⟨hc1, hc2⟩ := hp.lk.chain noneId hi.chain
    have hsub := hp.lk.ids
    obtain ⟨g1, g2, g3, g4⟩ := collapseRoot_spec s.cap hi.cap4 s.height t hp.ord hp.sz
    exact ⟨_, rfl, PInv.of_links g4 hi.cap4 g1 g2 hc1 (hi.head.trans hc2.symm) (hi.nodup.sublist hsub)
      (fun id hid => hi.fresh id (hsub.subset hid)), g3.trans hp.list, rfl, rfl⟩

theorem delitem_spec (s : PState K V) (k : K) (hi : PInv s) :
    ∃ s' b, delitem Cfg.repaired s k = some (s', b) ∧ PInv s' ∧ abs s' = SMap.erase (abs s) k ∧
      b = (SMap.lookup (abs s) k).isSome ∧ s'.cap = s.cap ∧ s'.nextId = s.nextId :=
  let ⟨s', he, h1, h2, h3, h4⟩ := delitem_spec_cfg Cfg.repaired s k hi (Or.inl rfl)
  ⟨s', _, he, h1, h2, rfl, h3, h4⟩

end BPT.Py
