import BPT.Py.Top
import BPT.Py.Readers
import BPT.Core.Fold
/-
  `from_sorted_items` / `_insert_sorted_optimized`: the fast path fires only on the true rightmost leaf
  (`CacheOK`) and for a key above its last key, hence above every key; there it does to the contents
  what `__setitem__` would do.
-/
namespace BPT.Py
open BPT Tree
open BPT.Rust (links links_succ links_zero ChainL firstOf link)
variable {K V : Type} [Keyed K]

/-- the cache is unset or names the rightmost leaf -/
def CacheOK (s : PState K V) : Prop :=
  ∀ id, s.cache = some id → (leaves s.height s.root).getLast?.map (·.id) = some id

omit [Keyed K] in
theorem mapLeaf_of_not_mem (id : Nat) (f : Leaf K V → Leaf K V) : ∀ (h : Nat) (t : Tree K V h),
    id ∉ (leaves h t).map (·.id) → mapLeaf id f h t = t := by
  intro h
  induction h with
  | zero =>
    intro t hn
    simp only [leaves, List.map_cons, List.map_nil, List.mem_singleton] at hn
    unfold mapLeaf
    have : ¬ (t : Leaf K V).id = id := fun he => hn he.symm
    simp [this]
  | succ h ih =>
    intro t hn
    unfold mapLeaf
    have : (Branch.children t).map (mapLeaf id f h) = Branch.children t := by
      conv => rhs; rw [← List.map_id (Branch.children t)]
      apply List.map_congr_left
      intro c hc
      apply ih c
      intro hm
      apply hn
      simp only [leaves, List.map_flatMap, List.mem_flatMap]
      exact ⟨c, hc, hm⟩
    rw [this]

theorem appendKV_spec (l : Leaf K V) (lo : Option Int) (k : K) (v : V) (ho : Ordered 0 (l : Tree K V 0) lo none)
    (hgt : ∀ x ∈ l.keys, ord x < ord k) (hlo : ∀ x, lo = some x → x ≤ ord k) :
    Ordered 0 (appendKV k v l : Tree K V 0) lo none ∧
    toList 0 (appendKV k v l : Tree K V 0) = toList 0 (l : Tree K V 0) ++ [(k, v)] := by
  obtain ⟨hs, hl, hb⟩ := ho
  refine ⟨⟨?_, ?_, ?_⟩, ?_⟩
  · show KSorted (l.keys ++ [k])
    unfold KSorted
    rw [List.pairwise_append]
    refine ⟨hs, by simp, ?_⟩
    intro a ha b hb'
    rw [List.mem_singleton.1 hb']; exact hgt a ha
  · show (l.keys ++ [k]).length = (l.vals ++ [v]).length
    simp [hl]
  · intro x hx
    rcases List.mem_append.1 (show x ∈ l.keys ++ [k] from hx) with hx' | hx'
    · exact hb x hx'
    · rw [List.mem_singleton.1 hx']
      exact ⟨hlo, by intro u hu; cases hu⟩
  · rw [toList_zero, toList_zero]
    simp only [Leaf.entries, appendKV]
    rw [List.zip_append hl]; rfl

omit [Keyed K] in
theorem mapLeaf_last_child (id : Nat) (f : Leaf K V → Leaf K V) (h : Nat) (t : Branch K (Tree K V h)) (A : List (Tree K V h))
    (c : Tree K V h) (hAc : t.children = A ++ [c]) (hnot : ∀ a ∈ A, id ∉ (leaves h a).map (·.id)) :
    mapLeaf id f (h+1) (t : Tree K V (h+1)) = (t.replace1 A.length (mapLeaf id f h c) : Tree K V (h+1)) := by
  show ({ t with children := t.children.map (mapLeaf id f h) } : Branch K (Tree K V h)) =
    ({ t with children := setAt t.children A.length (mapLeaf id f h c) } : Branch K (Tree K V h))
  have hAmap : A.map (mapLeaf id f h) = A := by
    conv => rhs; rw [← List.map_id A]
    exact List.map_congr_left fun a ha => mapLeaf_of_not_mem id f h a (hnot a ha)
  unfold setAt
  rw [hAc, List.map_append, hAmap]; simp

/-- appending an entry whose key exceeds every key to the rightmost leaf of an ordered subtree -/
theorem mapLeaf_last (cap : Nat) (hcap : 4 ≤ cap) (k : K) (v : V) : ∀ (h : Nat) (t : Tree K V h) (lo : Option Int) (m : Nat) (l : Leaf K V),
    Ordered h t lo none → PSized cap h t m → ((leaves h t).map (·.id)).Nodup →
    (leaves h t).getLast? = some l → l.keys.length < cap → (∀ p ∈ toList h t, ord p.1 < ord k) →
    (∀ x, lo = some x → x ≤ ord k) →
    Ordered h (mapLeaf l.id (appendKV k v) h t) lo none ∧
    toList h (mapLeaf l.id (appendKV k v) h t) = toList h t ++ [(k, v)] ∧
    PSized cap h (mapLeaf l.id (appendKV k v) h t) m ∧
    links h (mapLeaf l.id (appendKV k v) h t) = links h t := by
  intro h
  induction h with
  | zero =>
    intro t lo m l ho hsz _ hlast hlt hgt hlo
    simp only [leaves, List.getLast?_singleton, Option.some.injEq] at hlast
    subst hlast
    have hgt' : ∀ x ∈ (t : Leaf K V).keys, ord x < ord k := by
      intro x hx
      obtain ⟨v', hv'⟩ := exists_entry_of_key (t : Leaf K V) ho.leaf_lens hx
      exact hgt (x, v') (by rw [toList_zero]; exact hv')
    obtain ⟨g1, g2⟩ := appendKV_spec (t : Leaf K V) lo k v ho hgt' hlo
    rw [show mapLeaf (t : Leaf K V).id (appendKV k v) 0 t = (appendKV k v (t : Leaf K V) : Leaf K V) by simp [mapLeaf]]
    refine ⟨g1, g2, ?_, rfl⟩
    show m ≤ ((t : Leaf K V).keys ++ [k]).length ∧ ((t : Leaf K V).keys ++ [k]).length ≤ cap
    rw [List.length_append]; exact ⟨Nat.le_succ_of_le hsz.1, hlt⟩
  | succ h ih =>
    intro t lo m l ho hsz hnd hlast hlt hgt hlo
    obtain ⟨A, c, hAc, hAlen, hco⟩ := ho.last_child
    have hcm : c ∈ Branch.children t := by rw [hAc]; simp
    have hsplit : ∀ {β : Type} (g : Tree K V h → List β), (Branch.children t).flatMap g = A.flatMap g ++ g c := by
      intro β g; rw [hAc, List.flatMap_append]; simp
    have hsplit' : ∀ {β : Type} (g : Tree K V h → List β) (c' : Tree K V h),
        ((t : Branch K (Tree K V h)).replace1 A.length c').children.flatMap g = A.flatMap g ++ g c' := by
      intro β g c'
      show (setAt (Branch.children t) A.length c').flatMap g = _
      rw [hAc, setAt_append_cons, List.flatMap_append]; simp
    have htl : toList (h+1) t = A.flatMap (toList h) ++ toList h c := (toList_succ h t).trans (hsplit (toList h))
    have hgtc : ∀ p ∈ toList h c, ord p.1 < ord k := fun p hp => hgt p (by rw [htl]; exact List.mem_append_right _ hp)
    have hleaves : leaves (h+1) t = A.flatMap (leaves h) ++ leaves h c := hsplit (leaves h)
    have hlastc : (leaves h c).getLast? = some l := by
      rw [hleaves, getLast?_append_ne_nil (leaves_ne_nil h c _ _ hco)] at hlast; exact hlast
    have hlmem : l ∈ leaves h c := List.mem_of_getLast? hlastc
    rw [hleaves, List.map_append, List.nodup_append] at hnd
    -- the ids under the other children differ from `l.id`
    have hmap := mapLeaf_last_child l.id (appendKV k v) h t A c hAc (fun a ha hm =>
      hnd.2.2 l.id (by rw [List.map_flatMap, List.mem_flatMap]; exact ⟨a, ha, hm⟩) l.id (List.mem_map.2 ⟨l, hlmem, rfl⟩) rfl)
    -- the last separator is below `k`: the leaf `l` under it holds a key above the separator and below `k`
    have hloc : ∀ x, loAt (Branch.keys t) lo (Branch.keys t).length = some x → x ≤ ord k := by
      intro x hx
      have hmin := Nat.le_trans (minKeys_bounds cap hcap).1 ((hsz.children c hcm).leaf_min (Nat.le_refl _) l hlmem)
      obtain ⟨x0, hx0⟩ := List.exists_mem_of_length_pos hmin
      obtain ⟨v0, hv0⟩ := exists_entry_of_key l (leaves_lens h c _ _ hco l hlmem) hx0
      have hp : (x0, v0) ∈ toList h c := List.mem_flatMap.2 ⟨l, hlmem, hv0⟩
      exact Int.le_of_lt (Int.lt_of_le_of_lt ((toList_inB h c _ _ hco _ hp).lo_le hx) (hgtc _ hp))
    obtain ⟨g1, g2, g3, g4⟩ := ih c _ (minKeys cap) l hco (hsz.children c hcm) hnd.2.1 hlastc hlt hgtc hloc
    rw [hmap]
    refine ⟨ordered_replace1 h t lo none _ ho (by rw [hAc, List.length_append]; exact Nat.lt_succ_self _)
      (by rw [hAlen, hiAt_length]; exact g1), ?_, hsz.replace1 _ g3, ?_⟩
    · rw [toList_succ, hsplit', g2, htl, List.append_assoc]
    · rw [links_succ, links_succ, hsplit', g4, hsplit]

theorem fastLeaf_some {s : PState K V} {k : K} {l : Leaf K V} (h : fastLeaf s k = some l) :
    ∃ id lastk, s.cache = some id ∧ findLeafById (leaves s.height s.root) id = some l ∧
      l.keys.getLast? = some lastk ∧ ord lastk < ord k ∧ l.keys.length < s.cap := by
  unfold fastLeaf at h
  split at h; · cases h                 -- `self._rightmost_leaf_cache` is set
  rename_i id hcache
  split at h; · cases h                 -- and is a leaf of the tree (in the model the cache is an id)
  rename_i l0 hfind
  split at h; · cases h                 -- `.keys` is not empty
  rename_i lastk hlk
  split at h                            -- `key > .keys[-1]` and `not .is_full()`
  · rename_i hcond
    cases h
    exact ⟨id, lastk, hcache, hfind, hlk, hcond.1, by have := hcond.2; simp [isFull] at this; omega⟩
  · cases h

theorem insertSorted_spec (s : PState K V) (k : K) (v : V) (hi : PInv s) (hc : CacheOK s) :
    ∃ s', insertSorted s k v = some s' ∧ PInv s' ∧ CacheOK s' ∧ abs s' = SMap.insert (abs s) k v ∧ s'.cap = s.cap := by
  unfold insertSorted
  cases hf : fastLeaf s k with
  | some l =>
    -- the cached leaf is (`CacheOK`) the rightmost leaf, and `k` exceeds its last key
    obtain ⟨id, lastk, hcache, hfind, hlk, hlt, hroom⟩ := fastLeaf_some hf
    obtain ⟨hmem, hid⟩ := findLeafById_some hfind
    have hnd := hi.ids_nodup
    have hlast : (leaves s.height s.root).getLast? = some l := by
      have hlastid := hc id hcache
      cases hx : (leaves s.height s.root).getLast? with
      | none => rw [hx] at hlastid; cases hlastid
      | some x =>
        rw [hx] at hlastid
        simp only [Option.map_some, Option.some.injEq] at hlastid
        rw [eq_of_map_eq_of_nodup (fun (l : Leaf K V) => l.id) hnd l x hmem (List.mem_of_getLast? hx) (by rw [hid, hlastid])]
    have hgt : ∀ p ∈ toList s.height s.root, ord p.1 < ord k := fun p hp =>
      Int.lt_of_le_of_lt (toList_le_last s.height s.root none none hi.ord l hlast lastk hlk p hp) hlt
    obtain ⟨g1, g2, g3, g4⟩ := mapLeaf_last s.cap hi.cap4 k v s.height s.root none (rootMin s.height) l hi.ord hi.sz hnd hlast
      hroom hgt (by intro x hx; cases hx)
    have hins : SMap.insert (abs s) k v = abs s ++ [(k, v)] := SMap.insert_of_lt (abs s) k v hgt
    refine ⟨_, rfl, PInv.of_links g4 hi.cap4 g1 g3 hi.chain hi.head hi.nodup hi.fresh, ?_, g2.trans hins.symm, rfl⟩
    intro id' hid'
    have e : (leaves s.height (mapLeaf l.id (appendKV k v) s.height s.root)).map (·.id) = (leaves s.height s.root).map (·.id) := by
      rw [← linkIds_links, ← linkIds_links, g4]
    show (leaves s.height (mapLeaf l.id (appendKV k v) s.height s.root)).getLast?.map (·.id) = some id'
    rw [← List.getLast?_map, e, List.getLast?_map]; exact hc id' hid'
  | none =>
    simp only []
    obtain ⟨s1, he, hi1, ha1, hc1⟩ := setitem_spec s k v hi
    rw [he]
    simp only [lastOfChain, chain_spec s1 hi1, Res.map_ok]
    exact ⟨_, rfl, ⟨hi1.cap4, hi1.ord, hi1.sz, hi1.chain, hi1.head, hi1.nodup, hi1.fresh⟩, fun id hid => hid, ha1, hc1⟩

/-- **bulk load = incremental build**: for every capacity ≥ 4 and every item list, `from_sorted_items` does not raise,
    yields a valid tree, and its contents are those of assigning the items one by one -/
theorem fromSorted_spec (cap : Nat) (hcap : 4 ≤ cap) (its : List (K × V)) :
    ∃ s', fromSorted cap its = some (some s') ∧ PInv s' ∧
      abs s' = its.foldl (fun m kv => SMap.insert m kv.1 kv.2) [] ∧ s'.cap = cap := by
  obtain ⟨s0, h0, hinv0, habs0, hcap0⟩ := pinv_new (K := K) (V := V) cap hcap
  have hc0 : CacheOK s0 := by
    cases (new_of_le cap hcap).symm.trans h0   -- a new map has no cached leaf
    intro id hid; cases hid
  -- `f` and `g` with their types: left to unification inside `foldl_bind_refines` they cost a long search
  obtain ⟨s', h1, ⟨h2, _, h4⟩, h3⟩ := foldl_bind_refines (fun (s : PState K V) (kv : K × V) => insertSorted s kv.1 kv.2)
    (fun (m : List (K × V)) (kv : K × V) => SMap.insert m kv.1 kv.2) abs (fun s1 => PInv s1 ∧ CacheOK s1 ∧ s1.cap = cap)
    (fun s1 kv ⟨hi1, hc1, hcap1⟩ =>
      let ⟨s2, he, hi2, hc2, ha2, hcap2⟩ := insertSorted_spec s1 kv.1 kv.2 hi1 hc1; ⟨s2, he, ⟨hi2, hc2, hcap2.trans hcap1⟩, ha2⟩)
    its s0 ⟨hinv0, hc0, hcap0⟩
  refine ⟨s', ?_, h2, by rw [h3, habs0], h4⟩
  unfold fromSorted
  rw [h0]
  simp only [Option.map_some, h1]

end BPT.Py
