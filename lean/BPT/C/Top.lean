import BPT.C.Insert
/-
  The find and delete descents, and the invariant `CInv` of a C-extension tree state: established by the constructor,
  preserved by `__setitem__` and `__delitem__`, with the refinement equations against the sorted association list, the
  exact `size` field and the strictly growing modification stamp.
-/
namespace BPT.C
open BPT Tree
open BPT.Rust (links ChainL)
open BPT.Py (linkIds)
variable {K V : Type} [Keyed K]

def abs (s : CState K V) : List (K × V) := toList s.height s.root

/-- the last three fields say the leaf chain is the leaves in order, with distinct positive serials below `nextId` -/
structure CInv (s : CState K V) : Prop where
  cap4 : 4 ≤ s.cap
  ord : Ordered s.height s.root none none
  sz : CSized s.cap s.height s.root
  size : s.size = (abs s).length
  chain : ChainL (links s.height s.root) noneId
  nodup : (linkIds (links s.height s.root)).Nodup
  fresh : ∀ id ∈ linkIds (links s.height s.root), 0 < id ∧ id < s.nextId

theorem length_insert (m : List (K × V)) (k : K) (v : V) (hs : SMap.Sorted m) :
    (SMap.insert m k v).length = if (SMap.lookup m k).isSome then m.length else m.length + 1 :=
  SMap.length_insert m k v hs

theorem length_erase (m : List (K × V)) (k : K) :
    (SMap.erase m k).length = if (SMap.lookup m k).isSome then m.length - 1 else m.length :=
  SMap.length_erase m k

theorem deleteRec_zero_present (l : Leaf K V) (k k' : K) (hk' : l.keys[lowerBound l.keys k]? = some k') (he : ord k' = ord k) :
    deleteRec 0 (l : Tree K V 0) k =
      match l.vals[lowerBound l.keys k]? with
      | none => .ub
      | some v => .ok (some (({ l with keys := removeAt l.keys (lowerBound l.keys k), vals := removeAt l.vals (lowerBound l.keys k) } : Leaf K V),
                             { dec := [.key k', .val v] })) := by
  unfold deleteRec
  simp only [hk', he, if_true]
  cases l.vals[lowerBound l.keys k]? <;> rfl

theorem deleteRec_zero_absent (l : Leaf K V) (k : K) (hnf : ∀ k', l.keys[lowerBound l.keys k]? = some k' → ord k' ≠ ord k) :
    deleteRec 0 (l : Tree K V 0) k = .ok none := by
  unfold deleteRec
  cases hk' : l.keys[lowerBound l.keys k]? with
  | none => simp only [hk']
  | some k' => simp only [hk', hnf k' hk', if_false]

theorem findRec_zero_present (l : Leaf K V) (k k' : K) (hk' : l.keys[lowerBound l.keys k]? = some k') (he : ord k' = ord k) :
    findRec 0 (l : Tree K V 0) k = match l.vals[lowerBound l.keys k]? with | some v => .ok (some (k', v)) | none => .ub := by
  unfold findRec
  simp only [hk', he, if_true]
  cases l.vals[lowerBound l.keys k]? <;> rfl

theorem findRec_zero_absent (l : Leaf K V) (k : K) (hnf : ∀ k', l.keys[lowerBound l.keys k]? = some k' → ord k' ≠ ord k) :
    findRec 0 (l : Tree K V 0) k = .ok none := by
  unfold findRec
  cases hk' : l.keys[lowerBound l.keys k]? with
  | none => simp only [hk']
  | some k' => simp only [hk', hnf k' hk', if_false]

theorem deleteRec_spec (cap : Nat) : ∀ (h : Nat) (t : Tree K V h) (lo hi : Option Int) (k : K),
    Ordered h t lo hi → CSized cap h t →
    ∃ r, deleteRec h t k = .ok r ∧
      match r with
      | none => SMap.lookup (toList h t) k = none
      | some (t', _) => Ordered h t' lo hi ∧ toList h t' = SMap.erase (toList h t) k ∧ CSized cap h t' ∧
          links h t' = links h t ∧ (SMap.lookup (toList h t) k).isSome := by
  intro h
  induction h with
  | zero =>
    intro t lo hi k ho hsz
    rcases lowerBound_hit_or_miss (t : Leaf K V).keys k with ⟨k', hk', heq⟩ | hnf
    · obtain ⟨hltv, ho', hlist, hlen, hsome⟩ := leaf_remove_spec (t : Leaf K V) lo hi k k' ho hk' heq
      rw [deleteRec_zero_present (t : Leaf K V) k k' hk' heq, List.getElem?_eq_getElem hltv]
      exact ⟨_, rfl, ho', hlist, Nat.le_of_succ_le (Nat.le_trans (Nat.le_of_eq hlen) hsz), rfl, hsome⟩
    · rw [deleteRec_zero_absent (t : Leaf K V) k hnf]
      exact ⟨none, rfl, leaf_absent_spec (t : Leaf K V) lo hi k ho hnf⟩
  | succ h ih =>
    intro t lo hi k ho hsz
    obtain ⟨c, rt⟩ := ho.route k
    obtain ⟨r, he, hr⟩ := ih c _ _ k rt.child (hsz.children _ rt.mem)
    unfold deleteRec
    simp only [routePos_eq _ _ ho.sorted, rt.get, he, Res.map_ok]
    cases r with
    | none => exact ⟨none, rfl, by rw [rt.lookup]; exact hr⟩
    | some p =>
      obtain ⟨c', ev⟩ := p
      obtain ⟨h1, h2, h3, h4, h5⟩ := hr
      exact ⟨_, rfl, rt.replace1 h1, rt.replace1_toList (.erase k) h2, hsz.replace1 _ h3, Rust.links_replace1_eq rt.get h4,
        by rw [rt.lookup]; exact h5⟩

theorem findRec_spec : ∀ (h : Nat) (t : Tree K V h) (lo hi : Option Int) (k : K),
    Ordered h t lo hi → findRec h t k = .ok (SMap.lookup (toList h t) k) := by
  intro h
  induction h with
  | zero =>
    intro t lo hi k ho
    rcases lowerBound_hit_or_miss (t : Leaf K V).keys k with ⟨k', hk', he⟩ | hnf
    · obtain ⟨v, hv, hlook⟩ := leaf_present_spec (t : Leaf K V) lo hi k k' ho hk' he
      rw [findRec_zero_present (t : Leaf K V) k k' hk' he, hv, hlook]
    · rw [findRec_zero_absent (t : Leaf K V) k hnf, leaf_absent_spec (t : Leaf K V) lo hi k ho hnf]
  | succ h ih =>
    intro t lo hi k ho
    obtain ⟨c, rt⟩ := ho.route k
    unfold findRec
    simp only [routePos_eq _ _ ho.sorted, rt.get]
    rw [ih c _ _ k rt.child, rt.lookup]

theorem cinv_new (cfg : Cfg) (c : Nat) (h4 : 4 ≤ c) (h16 : c < 2 ^ capacityBits) :
    ∃ s : CState K V, new cfg c = some s ∧ CInv s ∧ abs s = [] ∧ s.cap = c ∧ s.size = 0 := by
  have g1 : ¬ c < minCapacity := by unfold minCapacity; omega
  have g2 : ¬ (¬ cfg.legacyNarrow = true ∧ c ≥ 2 ^ capacityBits) := by omega
  refine ⟨{ cap := c % 2 ^ capacityBits, height := 0, root := (emptyLeaf 1 : Leaf K V), size := 0, modc := 0, nextId := 2 },
    by simp only [new, g1, g2, if_false], ⟨?_, ?_, ?_, ?_, ?_, ?_, ?_⟩, ?_, Nat.mod_eq_of_lt h16, rfl⟩
  · show 4 ≤ c % 2 ^ capacityBits; rw [Nat.mod_eq_of_lt h16]; exact h4
  · exact ⟨List.Pairwise.nil, rfl, fun _ h => by cases h⟩
  · show (0 : Nat) ≤ _; exact Nat.zero_le _
  · simp [abs, toList, leaves, emptyLeaf, Leaf.entries]
  · exact ⟨rfl, trivial⟩
  · simp [linkIds, links, leaves, Rust.link, emptyLeaf]
  · intro id hid
    simp [linkIds, links, leaves, Rust.link, emptyLeaf] at hid
    subst hid; exact ⟨Nat.zero_lt_one, Nat.lt_succ_self 1⟩
  · simp [abs, toList, leaves, emptyLeaf, Leaf.entries]

/-- with D11 repaired the constructor accepts exactly `4 ≤ c < 2^16`, and then stores `c` itself -/
theorem new_spec (c : Nat) :
    ((new Cfg.repaired c : Option (CState K V)) = none ↔ (c < 4 ∨ 2 ^ capacityBits ≤ c)) ∧
    (∀ s, (new Cfg.repaired c : Option (CState K V)) = some s → s.cap = c) := by
  unfold new minCapacity Cfg.repaired
  by_cases h1 : c < 4
  · simp [h1]
  · by_cases h2 : c ≥ 2 ^ capacityBits
    · simp [h1, h2]
    · -- accepted: the stored `c % 2^16` is `c`
      simp only [h1, h2, if_false, Bool.false_eq_true, not_false_eq_true, true_and, false_or, reduceCtorEq, Option.some.injEq]
      intro s hs
      rw [← hs]
      exact Nat.mod_eq_of_lt (Nat.lt_of_not_le h2)

theorem setitem_spec (cfg : Cfg) (s : CState K V) (k : K) (v : V) (hi : CInv s) :
    ∃ s' ev, setitem cfg s k v = .ok (s', ev) ∧ CInv s' ∧ abs s' = SMap.insert (abs s) k v ∧ s'.cap = s.cap ∧
      s.modc < s'.modc := by
  obtain ⟨hcap, ho, hsz, hsize, hchain, hnodup, hfresh⟩ := hi
  obtain ⟨res, ev, nid', he, hok, hlk⟩ := insertRec_spec cfg s.cap hcap s.height s.root none none k v s.nextId ho (inB_none) hsz
  have hsorted : SMap.Sorted (abs s) := toList_sorted s.height s.root none none ho
  obtain ⟨hc1, hc2⟩ := hlk.chain noneId hchain
  obtain ⟨hi1, hi2⟩ := hlk.ids hnodup hfresh
  have hlen := length_insert (abs s) k v hsorted
  unfold abs at hlen hsize
  unfold setitem
  rw [he]
  cases res with
  | updated t | inserted t =>
    obtain ⟨h1, h2, h3, h4⟩ := hok
    refine ⟨_, _, rfl, ⟨hcap, h1, h3, ?_, hc1, hi1, hi2⟩, h2, rfl, Nat.lt_succ_self _⟩
    show _ = (toList s.height t).length
    -- `h4` settles the `if` of `hlen` either way
    rw [h2, hlen, h4, hsize]; rfl
  | split l r sep =>
    obtain ⟨hl, hr, _, _, hlist, hsl, hsr, h4⟩ := hok
    have hlinks := Rust.links_grow s.height l r sep 0
    have hlist' : toList (s.height + 1) (({ id := 0, keys := [sep], children := [l, r] } : Branch K (Tree K V s.height)) : Tree K V (s.height+1)) =
        SMap.insert (abs s) k v := (toList_grow _ l r sep 0).trans hlist
    refine ⟨_, _, rfl, ⟨hcap, (ordered_two _ 0 l r sep none none).2 ⟨hl, hr, inB_none⟩,
      ⟨Nat.le_trans (by decide : 1 ≤ 4) hcap, forall_mem_two hsl hsr⟩, ?_, hlinks.symm ▸ hc1, hlinks.symm ▸ hi1,
      hlinks.symm ▸ hi2⟩, hlist', rfl, Nat.lt_succ_self _⟩
    · show s.size + 1 = (toList (s.height + 1) _).length
      rw [hlist']; unfold abs; rw [hlen, h4]; simp [hsize]

theorem delitem_spec (s : CState K V) (k : K) (hi : CInv s) :
    ∃ r, delitem s k = .ok r ∧
      match r with
      | none => SMap.lookup (abs s) k = none
      | some (s', _) => CInv s' ∧ abs s' = SMap.erase (abs s) k ∧ (SMap.lookup (abs s) k).isSome ∧ s'.cap = s.cap ∧
          s.modc < s'.modc := by
  obtain ⟨hcap, ho, hsz, hsize, hchain, hnodup, hfresh⟩ := hi
  obtain ⟨r, he, hr⟩ := deleteRec_spec s.cap s.height s.root none none k ho hsz
  unfold delitem
  rw [he]
  cases r with
  | none => exact ⟨none, rfl, hr⟩
  | some p =>
    obtain ⟨t, ev⟩ := p
    obtain ⟨h1, h2, h3, h4, h5⟩ := hr
    refine ⟨_, rfl, ⟨hcap, h1, h3, ?_, h4.symm ▸ hchain, h4.symm ▸ hnodup, h4.symm ▸ hfresh⟩, h2, h5, rfl, Nat.lt_add_of_pos_right (by decide : 0 < 2)⟩
    show s.size - 1 = (toList s.height t).length
    rw [h2, length_erase, if_pos h5, hsize]; rfl

theorem delitem_present (s : CState K V) (k : K) (hi : CInv s) (hk : (SMap.lookup (abs s) k).isSome) :
    ∃ s' ev, delitem s k = .ok (some (s', ev)) ∧ CInv s' ∧ abs s' = SMap.erase (abs s) k ∧ s'.cap = s.cap := by
  obtain ⟨r, hd, hr⟩ := delitem_spec s k hi
  cases r with
  | none => rw [hr] at hk; cases hk
  | some q => exact ⟨q.1, q.2, hd, hr.1, hr.2.1, hr.2.2.2.1⟩

theorem getitem_spec (s : CState K V) (k : K) (hi : CInv s) :
    ∃ ev, getitem s k = .ok ((SMap.lookup (abs s) k).map (·.2), ev) := by
  unfold getitem
  rw [findRec_spec s.height s.root none none k hi.ord]
  simp only [Res.map_ok, abs]
  cases SMap.lookup (toList s.height s.root) k with
  | none => exact ⟨_, rfl⟩
  | some p => exact ⟨_, rfl⟩

theorem contains_spec (s : CState K V) (k : K) (hi : CInv s) :
    ∃ ev, contains s k = .ok ((SMap.lookup (abs s) k).isSome, ev) := by
  unfold contains
  rw [findRec_spec s.height s.root none none k hi.ord]
  simp only [Res.map_ok, abs]
  cases SMap.lookup (toList s.height s.root) k with
  | none => exact ⟨_, rfl⟩
  | some p => exact ⟨_, rfl⟩

theorem len_spec (s : CState K V) (hi : CInv s) : len s = (abs s).length := hi.size

end BPT.C
