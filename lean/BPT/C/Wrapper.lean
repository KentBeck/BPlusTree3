import BPT.C.Iter
import BPT.C.Api
/-
  The wrapper methods of the package-level BPlusTreeMap that are built on iteration: popitem, copy, clear; and
  `update` (`wupdate_spec`), a fold of `__setitem__`, with which `copy` fills the new map.
  (`keys()` / `values()` are not modelled as drained iterators, only the first step of `keys()` that `clear` takes.)
-/
namespace BPT.C
open BPT Tree
variable {K V : Type} [Keyed K]

theorem firstItem_spec (s : CState K V) (hi : CInv s) : firstItem s = .ok (abs s).head? := by
  obtain ⟨it', he, _, _⟩ := iterNext_pos s (walk_of_cinv s hi) (iterNew s true) (abs s) (pos_new s hi true)
  unfold firstItem
  rw [he]
  cases abs s with
  | nil => rfl
  | cons p m => obtain ⟨k, v⟩ := p; simp [outOf, iterNew]

theorem firstKey_spec (s : CState K V) (hi : CInv s) : firstKey s = .ok ((abs s).head?.map (·.1)) := by
  obtain ⟨it', he, _, _⟩ := iterNext_pos s (walk_of_cinv s hi) (iterNew s false) (abs s) (pos_new s hi false)
  unfold firstKey
  rw [he]
  cases abs s with
  | nil => rfl
  | cons p m => obtain ⟨k, v⟩ := p; simp [outOf, iterNew]

theorem delitem_head (s : CState K V) (hi : CInv s) (k : K) (v : V) (rest : List (K × V)) (hm : abs s = (k, v) :: rest) :
    ∃ s' ev, delitem s k = .ok (some (s', ev)) ∧ CInv s' ∧ abs s' = rest ∧ s'.cap = s.cap := by
  have := delitem_present s k hi (by rw [hm, SMap.lookup_head (k, v) rest]; rfl)
  rwa [hm, SMap.erase_head (k, v) rest] at this

/-- `popitem()` removes and returns the entry with the smallest key; KeyError on an empty map -/
theorem wpopitem_spec (s : CState K V) (hi : CInv s) :
    match abs s with
    | [] => wpopitem s = .ok (s, none)
    | p :: rest => ∃ s', wpopitem s = .ok (s', some p) ∧ CInv s' ∧ abs s' = rest ∧ s'.cap = s.cap := by
  have hf := firstItem_spec s hi
  cases hm : abs s with
  | nil =>
    rw [hm] at hf
    simp [wpopitem, hf]
  | cons p rest =>
    rw [hm] at hf
    obtain ⟨k, v⟩ := p
    obtain ⟨s', ev, hd, h1, h2, h4⟩ := delitem_head s hi k v rest hm
    simp only [wpopitem, hf, List.head?_cons, Res.bind_ok]
    exact ⟨s', by simp [hd], h1, h2, h4⟩

theorem wupdate_spec (cfg : Cfg) (its : List (K × V)) : ∀ (s : CState K V), CInv s →
    ∃ s', wupdate cfg s its = .ok s' ∧ CInv s' ∧ abs s' = its.foldl (fun m kv => SMap.insert m kv.1 kv.2) (abs s) ∧ s'.cap = s.cap := by
  induction its with
  | nil => intro s hi; exact ⟨s, rfl, hi, rfl, rfl⟩
  | cons kv its ih =>
    intro s hi
    obtain ⟨s1, ev, he, hi1, ha1, hc1, _⟩ := setitem_spec cfg s kv.1 kv.2 hi
    obtain ⟨s', h1, h2, h3, h4⟩ := ih s1 hi1
    refine ⟨s', ?_, h2, by rw [h3, ha1]; rfl, by rw [h4, hc1]⟩
    unfold wupdate at h1 ⊢
    simp only [List.foldl_cons, Res.bind_ok, he, Res.map_ok]
    exact h1

/-- `copy()`: a new map of capacity 8 (the wrapper's `capacity` property) with the same contents -/
theorem wcopy_spec (s : CState K V) (hi : CInv s) :
    ∃ s', wcopy Cfg.repaired s = .ok s' ∧ CInv s' ∧ abs s' = abs s ∧ s'.cap = wrapperCapacity := by
  obtain ⟨s0, h0, hinv0, habs0, hcap0, _⟩ := cinv_new (K := K) (V := V) Cfg.repaired wrapperCapacity (by decide) (by decide)
  obtain ⟨s', he, h1, h2, h3⟩ := wupdate_spec Cfg.repaired (abs s) s0 hinv0
  have hsorted : SMap.Sorted (abs s) := toList_sorted s.height s.root none none hi.ord
  rw [habs0, SMap.foldl_insert_sorted (abs s) [] (by simpa using hsorted)] at h2
  refine ⟨s', ?_, h1, by simpa using h2, by rw [h3, hcap0]⟩
  simp [wcopy, items_spec s hi, h0, he]

/-- `clear()` empties the map, within `size + 1` rounds -/
theorem wclear_spec : ∀ (n : Nat) (s : CState K V), CInv s → s.size = n →
    ∃ s', wclear (n + 1) s = .ok s' ∧ CInv s' ∧ abs s' = [] ∧ s'.cap = s.cap := by
  -- by induction on the contents: each round deletes the first entry
  have aux : ∀ (m : List (K × V)) (s : CState K V), CInv s → abs s = m →
      ∃ s', wclear (m.length + 1) s = .ok s' ∧ CInv s' ∧ abs s' = [] ∧ s'.cap = s.cap := by
    intro m
    induction m with
    | nil =>
      intro s hi hm
      exact ⟨s, by simp [wclear, hi.size, hm], hi, hm, rfl⟩
    | cons p rest ih =>
      intro s hi hm
      obtain ⟨k, v⟩ := p
      have hfk := firstKey_spec s hi
      rw [hm] at hfk
      obtain ⟨s1, ev, hd, h1, h2, h4⟩ := delitem_head s hi k v rest hm
      obtain ⟨s', he, g1, g2, g3⟩ := ih s1 h1 h2
      refine ⟨s', ?_, g1, g2, by rw [g3, h4]⟩
      have hne : s.size ≠ 0 := by rw [hi.size, hm]; exact Nat.succ_ne_zero _
      unfold wclear
      simp only [hne, if_false, hfk, List.head?_cons, Option.map_some, Res.bind_ok, hd]
      exact he
  intro n s hi hn
  rw [← hn, hi.size]
  exact aux (abs s) s hi rfl

end BPT.C
