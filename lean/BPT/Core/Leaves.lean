import BPT.Core.Route
/-
  The leaves of an ordered tree and its entry list, for the readers of all three implementations: the leftmost
  leaf, the leaf a key is routed to and how it cuts the entry list, the last key.
-/
namespace BPT
open Tree
variable {K V : Type} [Keyed K]

section
omit [Keyed K]

theorem entries_drop_nil (l : Leaf K V) {i : Nat} (hi : l.keys.length ≤ i) : l.entries.drop i = [] :=
  List.drop_eq_nil_of_le (by simp only [Leaf.entries, List.length_zip]; omega)

theorem mem_entries_take {l : Leaf K V} {i : Nat} {p : K × V} (hp : p ∈ l.entries.take i) : p.1 ∈ l.keys.take i := by
  rw [Leaf.entries, take_zip] at hp
  exact (List.of_mem_zip hp).1

theorem mem_entries_drop {l : Leaf K V} {i : Nat} {p : K × V} (hp : p ∈ l.entries.drop i) : p.1 ∈ l.keys.drop i := by
  rw [Leaf.entries, drop_zip] at hp
  exact (List.of_mem_zip hp).1

end

theorem leaves_lens : ∀ (h : Nat) (t : Tree K V h) (lo hi : Option Int), Ordered h t lo hi →
    ∀ l ∈ leaves h t, l.keys.length = l.vals.length := by
  intro h
  induction h with
  | zero => intro t lo hi ho l hl; exact List.mem_singleton.1 hl ▸ ho.leaf_lens
  | succ h ih =>
    intro t lo hi ho l hl
    obtain ⟨c, hcm, hl⟩ := List.mem_flatMap.1 hl
    obtain ⟨_, _, hco⟩ := ho.child_of_mem hcm
    exact ih c _ _ hco l hl

theorem keys_of_entries (Ls : List (Leaf K V)) (h : ∀ l ∈ Ls, l.keys.length = l.vals.length) :
    (Ls.flatMap Leaf.entries).map (·.1) = Ls.flatMap (·.keys) := by
  rw [List.map_flatMap]
  exact flatMap_congr fun l hl => List.map_fst_zip (Nat.le_of_eq (h l hl))

theorem leaves_keys_sum (h : Nat) (t : Tree K V h) (lo hi : Option Int) (ho : Ordered h t lo hi) :
    ((leaves h t).map (fun l => l.keys.length)).sum = (toList h t).length := by
  unfold toList
  rw [List.length_flatMap]
  exact congrArg List.sum (List.map_congr_left fun l hl => by
    simp only [Leaf.entries, List.length_zip, ← leaves_lens h t lo hi ho l hl, Nat.min_self])

namespace Tree
/-- The leftmost leaf of a typed tree: the specification of `get_first_leaf_id` and of the head of the C iterator. -/
def firstLeafOf : (h : Nat) → Tree K V h → Option (Leaf K V)
  | 0, (l : Leaf K V) => some l
  | h+1, (b : Branch K (Tree K V h)) =>
    match b.children[0]? with
    | some c => firstLeafOf h c
    | none => none

/-- The leaf of a typed tree that a search for `k` descends to: the specification of `find_leaf_for_key`, `_find_leaf_for_key`. -/
def routeLeaf : (h : Nat) → Tree K V h → K → Option (Leaf K V)
  | 0, (l : Leaf K V), _ => some l
  | h+1, (b : Branch K (Tree K V h)), k =>
    match b.children[upperBound b.keys k]? with
    | some c => routeLeaf h c k
    | none => none
end Tree

theorem firstLeafOf_head : ∀ (h : Nat) (t : Tree K V h) (lo hi : Option Int), Ordered h t lo hi →
    firstLeafOf h t = (leaves h t).head? := by
  intro h
  induction h with
  | zero => intro t _ _ _; rfl
  | succ h ih =>
    intro t lo hi ho
    cases hch : (Branch.children t) with
    | nil => exact absurd hch ho.children_ne_nil
    | cons c rest =>
      have hco := ho.child (i := 0) (c := c) (by rw [hch]; rfl)
      have hne := leaves_ne_nil h c _ _ hco
      unfold firstLeafOf
      simp only [hch, List.getElem?_cons_zero]
      rw [ih c _ _ hco]
      show _ = ((Branch.children t).flatMap (leaves h)).head?
      rw [hch, List.flatMap_cons]
      cases hl : leaves h c with
      | nil => exact absurd hl hne
      | cons x xs => rfl

theorem route_split : ∀ (h : Nat) (t : Tree K V h) (lo hi : Option Int) (k : K), Ordered h t lo hi →
    ∃ before l after lo' hi', routeLeaf h t k = some l ∧ leaves h t = before ++ l :: after ∧
      Ordered 0 (l : Tree K V 0) lo' hi' ∧
      (∀ p ∈ before.flatMap Leaf.entries, ord p.1 < ord k) ∧ (∀ p ∈ after.flatMap Leaf.entries, ord k < ord p.1) := by
  intro h
  induction h with
  | zero => intro t lo hi k ho; exact ⟨[], t, [], lo, hi, rfl, rfl, ho, by simp, by simp⟩
  | succ h ih =>
    intro t lo hi k ho
    obtain ⟨c, rt⟩ := ho.route k
    obtain ⟨bc, l, ac, lo', hi', hr, hlv, hol, hb, ha⟩ := ih c _ _ k rt.child
    refine ⟨((Branch.children t).take (upperBound (Branch.keys t) k)).flatMap (leaves h) ++ bc, l,
            ac ++ ((Branch.children t).drop (upperBound (Branch.keys t) k + 1)).flatMap (leaves h), lo', hi', ?_, ?_, hol, ?_, ?_⟩
    · simp only [routeLeaf, rt.get]; exact hr
    · show (Branch.children t).flatMap (leaves h) = _
      rw [flatMap_split (leaves h) rt.get, hlv]
      simp only [List.append_assoc, List.cons_append]
    · intro p hp
      rw [List.flatMap_append] at hp
      rcases List.mem_append.1 hp with hp | hp
      · exact rt.left p (by rw [List.flatMap_assoc] at hp; exact hp)
      · exact hb p hp
    · intro p hp
      rw [List.flatMap_append] at hp
      rcases List.mem_append.1 hp with hp | hp
      · exact ha p hp
      · exact rt.right p (by rw [List.flatMap_assoc] at hp; exact hp)

/-- The entries `≥ k` are those of the routed leaf from the lower bound of `k` on, then all of the later leaves, which
    lie strictly above `k`. -/
theorem filter_ge_route (h : Nat) (t : Tree K V h) (lo hi : Option Int) (k : K) (ho : Ordered h t lo hi) :
    ∃ before l after, routeLeaf h t k = some l ∧ leaves h t = before ++ l :: after ∧
      KSorted l.keys ∧ l.keys.length = l.vals.length ∧
      (toList h t).filter (fun p => decide (ord k ≤ ord p.1)) =
        l.entries.drop (lowerBound l.keys k) ++ after.flatMap Leaf.entries ∧
      ∀ p ∈ after.flatMap Leaf.entries, ord k < ord p.1 := by
  obtain ⟨before, l, after, lo', hi', hr, hlv, hol, hb, ha⟩ := route_split h t lo hi k ho
  have hlb := lowerBound_spec l.keys k hol.leaf_sorted
  refine ⟨before, l, after, hr, hlv, hol.leaf_sorted, hol.leaf_lens, ?_, ha⟩
  have habs : toList h t = (before.flatMap Leaf.entries ++ l.entries.take (lowerBound l.keys k)) ++
      (l.entries.drop (lowerBound l.keys k) ++ after.flatMap Leaf.entries) := by
    unfold toList
    rw [hlv]
    simp only [List.flatMap_append, List.flatMap_cons, List.append_assoc]
    rw [← List.append_assoc (l.entries.take _), List.take_append_drop]
  rw [habs]
  apply filter_append_eq_right
  · intro p hp
    rcases List.mem_append.1 hp with hp | hp
    · exact decide_eq_false (Int.not_le.2 (hb p hp))
    · exact decide_eq_false (Int.not_le.2 (hlb.1 _ (mem_entries_take hp)))
  · intro p hp
    rcases List.mem_append.1 hp with hp | hp
    · exact decide_eq_true (hlb.2 _ (mem_entries_drop hp))
    · exact decide_eq_true (Int.le_of_lt (ha p hp))

omit [Keyed K] in
theorem exists_entry_of_key (l : Leaf K V) (hl : l.keys.length = l.vals.length) {x : K} (hx : x ∈ l.keys) :
    ∃ v, (x, v) ∈ Leaf.entries l := by
  obtain ⟨i, hi⟩ := List.mem_iff_getElem?.1 hx
  obtain ⟨v, hv⟩ := exists_getElem? (hl ▸ lt_of_getElem?_eq_some hi)
  exact ⟨v, List.mem_of_getElem? (List.getElem?_zip_eq_some.2 ⟨hi, hv⟩)⟩

theorem toList_le_last (h : Nat) (t : Tree K V h) (lo hi : Option Int) (ho : Ordered h t lo hi) (l : Leaf K V)
    (hlast : (leaves h t).getLast? = some l) (lastk : K) (hlk : l.keys.getLast? = some lastk) :
    ∀ p ∈ toList h t, ord p.1 ≤ ord lastk := by
  have hpar := leaves_lens h t lo hi ho l (List.mem_of_getLast? hlast)
  -- the entry list ends in the entry of `lastk`, and it is strictly ascending
  have hP := (dropLast_append_getLast? hlast).symm
  have hk := (dropLast_append_getLast? hlk).symm
  obtain ⟨lastv, hlv, hv⟩ := exists_getLast? l.vals (by rw [← hpar, hk, List.length_append]; exact Nat.succ_pos _)
  have hdl : l.keys.dropLast.length = l.vals.dropLast.length := by simp [hpar]
  have habs : toList h t = ((leaves h t).dropLast.flatMap Leaf.entries ++ l.keys.dropLast.zip l.vals.dropLast) ++ [(lastk, lastv)] := by
    unfold toList
    conv => lhs; rw [hP, List.flatMap_append]
    simp only [List.flatMap_cons, List.flatMap_nil, List.append_nil, Leaf.entries]
    conv => lhs; rw [hk, ← hv, List.zip_append hdl]
    simp [List.append_assoc]
  exact (toList_sorted h t lo hi ho).le_getLast (z := (lastk, lastv)) (by rw [habs, List.getLast?_concat])

omit [Keyed K] in
/-- about any `f` with the two equations of `leafDepths`: Props/C04 and Props/C09 each define their own -/
theorem leafDepths_eq (f : (h : Nat) → Tree K V h → Nat → List Nat) (hleaf : ∀ (t : Tree K V 0) d, f 0 t d = [d])
    (hbranch : ∀ h (b : Branch K (Tree K V h)) d, f (h+1) b d = b.children.flatMap (fun c => f h c (d+1))) :
    ∀ (h : Nat) (t : Tree K V h) (d : Nat), ∀ x ∈ f h t d, x = d + h := by
  intro h
  induction h with
  | zero => intro t d x hx; rw [hleaf, List.mem_singleton] at hx; exact hx
  | succ h ih =>
    intro t d x hx
    rw [hbranch, List.mem_flatMap] at hx
    obtain ⟨c, _, hx⟩ := hx
    rw [ih c (d+1) x hx, Nat.add_right_comm, Nat.add_assoc]

end BPT
