import BPT.Core.Search
/- The reference map `SMap` (association list strictly sorted by `ord`): its operations pass over entries below and
   above the key (`Local`), act on the zipped entries of a leaf at the lower bound, and make it a map. -/
namespace BPT
variable {K V : Type} [Keyed K]

namespace SMap

/-- replace the value stored under `k` (if any); the key object stays -/
def adjust : List (K × V) → K → V → List (K × V)
  | [], _, _ => []
  | (k', v') :: m, k, v => if ord k' = ord k then (k', v) :: m else (k', v') :: adjust m k v

theorem lookup_cons (a : K × V) (m : List (K × V)) (k : K) :
    lookup (a :: m) k = if ord a.1 = ord k then some a else lookup m k := by
  by_cases h : ord a.1 = ord k <;> simp [lookup, h]

theorem lookup_head (p : K × V) (rest : List (K × V)) : lookup (p :: rest) p.1 = some p := by
  simp [lookup]

theorem insert_append_left (A R : List (K × V)) (k : K) (v : V) (h : ∀ p ∈ A, ord p.1 < ord k) :
    insert (A ++ R) k v = A ++ insert R k v := by
  induction A with
  | nil => rfl
  | cons a A ih =>
    have ha := h a List.mem_cons_self
    rw [List.cons_append, insert, if_neg (Int.lt_asymm ha), if_neg (Int.ne_of_gt ha), ih fun p hp => h p (List.mem_cons_of_mem _ hp),
      List.cons_append]

theorem insert_append_right (M B : List (K × V)) (k : K) (v : V) (h : ∀ p ∈ B, ord k < ord p.1) :
    insert (M ++ B) k v = insert M k v ++ B := by
  -- the cases of `insert`: the empty list, `k` below the head, at the head, beyond it (of `erase` and `adjust`: the
  -- empty list, `k` at the head, beyond it)
  fun_induction insert M k v with
  | case1 k v =>
    cases B with
    | nil => rfl
    | cons b B => exact if_pos (h b List.mem_cons_self)
  | case2 k' v' m k v hlt => exact if_pos hlt
  | case3 k' v' m k v hlt he => rw [List.cons_append, insert, if_neg hlt, if_pos he, List.cons_append]
  | case4 k' v' m k v hlt hne ih => rw [List.cons_append, insert, if_neg hlt, if_neg hne, ih h, List.cons_append]

theorem insert_of_lt (A : List (K × V)) (k : K) (v : V) (h : ∀ p ∈ A, ord p.1 < ord k) : insert A k v = A ++ [(k, v)] := by
  have := insert_append_left A [] k v h
  rwa [List.append_nil] at this

theorem lookup_append_left {A R : List (K × V)} {k : K} (h : ∀ p ∈ A, ord p.1 < ord k) :
    lookup (A ++ R) k = lookup R k := by
  unfold lookup
  rw [List.find?_append, List.find?_eq_none.2 fun p hp he => Int.ne_of_lt (h p hp) (eq_of_beq he), Option.none_or]

theorem lookup_none_of_gt (B : List (K × V)) (k : K) (h : ∀ p ∈ B, ord k < ord p.1) : lookup B k = none := by
  unfold lookup
  rw [List.find?_eq_none]
  exact fun p hp he => Int.ne_of_gt (h p hp) (eq_of_beq he)

theorem lookup_append_right {M B : List (K × V)} {k : K} (h : ∀ p ∈ B, ord k < ord p.1) :
    lookup (M ++ B) k = lookup M k := by
  have := lookup_none_of_gt B k h
  unfold lookup at this ⊢
  rw [List.find?_append, this, Option.or_none]

structure Local (k : K) (f : List (K × V) → List (K × V)) : Prop where
  left : ∀ A M, (∀ p ∈ A, ord p.1 < ord k) → f (A ++ M) = A ++ f M
  right : ∀ M B, (∀ p ∈ B, ord k < ord p.1) → f (M ++ B) = f M ++ B

theorem Local.insert (k : K) (v : V) : Local k (fun m => insert m k v) :=
  ⟨fun A M h => insert_append_left A M k v h, fun M B h => insert_append_right M B k v h⟩

/-- a function that rewrites the first entry with key `k`, as `erase` and `adjust` do, leaves a list without `k` alone -/
theorem eq_self_of_first (k : K) (f : List (K × V) → List (K × V)) (g : K × V → List (K × V) → List (K × V))
    (h0 : f [] = []) (hc : ∀ p m, f (p :: m) = if ord p.1 = ord k then g p m else p :: f m) :
    ∀ B, (∀ p ∈ B, ord p.1 ≠ ord k) → f B = B := by
  intro B h
  induction B with
  | nil => exact h0
  | cons b B ih => rw [hc, if_neg (h b List.mem_cons_self), ih (fun p hp => h p (List.mem_cons_of_mem _ hp))]

theorem Local.of_first (k : K) (f : List (K × V) → List (K × V)) (g : K × V → List (K × V) → List (K × V))
    (h0 : f [] = []) (hc : ∀ p m, f (p :: m) = if ord p.1 = ord k then g p m else p :: f m)
    (hg : ∀ p M B, g p (M ++ B) = g p M ++ B) : Local k f := by
  refine ⟨?_, ?_⟩
  · intro A M h
    induction A with
    | nil => rfl
    | cons a A ih =>
      have := h a List.mem_cons_self
      rw [List.cons_append, hc, if_neg (Int.ne_of_lt this), ih (fun p hp => h p (List.mem_cons_of_mem _ hp)), List.cons_append]
  · intro M B h
    induction M with
    | nil =>
      rw [List.nil_append, h0, List.nil_append]
      exact eq_self_of_first k f g h0 hc B (fun p hp => Int.ne_of_gt (h p hp))
    | cons m M ih =>
      rw [List.cons_append, hc, hc]
      split
      · exact hg m M B
      · rw [ih, List.cons_append]

theorem erase_of_ne (B : List (K × V)) (k : K) (h : ∀ p ∈ B, ord p.1 ≠ ord k) : erase B k = B :=
  eq_self_of_first k (fun m => erase m k) (fun _ m => m) rfl (fun _ _ => rfl) B h

theorem adjust_of_ne (B : List (K × V)) (k : K) (v : V) (h : ∀ p ∈ B, ord p.1 ≠ ord k) : adjust B k v = B :=
  eq_self_of_first k (fun m => adjust m k v) (fun p m => (p.1, v) :: m) rfl (fun _ _ => rfl) B h

theorem Local.erase (k : K) : Local (V := V) k (fun m => erase m k) :=
  Local.of_first k (fun m => SMap.erase m k) (fun _ m => m) rfl (fun _ _ => rfl) (fun _ _ _ => rfl)

theorem Local.adjust (k : K) (v : V) : Local k (fun m => adjust m k v) :=
  Local.of_first k (fun m => SMap.adjust m k v) (fun p m => (p.1, v) :: m) rfl (fun _ _ => rfl) (fun _ _ _ => rfl)

/-- The zipped entries around the lower bound of `k`: `A` strictly below `k`, `B` strictly above, and between them
    nothing, or the one entry whose key compares equal to `k`, which sits at the bound. -/
theorem zip_lowerBound (ks : List K) (vs : List V) (k : K) (hs : KSorted ks) (hl : ks.length = vs.length) :
    ∃ A M B, ks.zip vs = A ++ M ++ B ∧ A.length = lowerBound ks k ∧ (∀ p ∈ A, ord p.1 < ord k) ∧ (∀ p ∈ B, ord k < ord p.1) ∧
      ((M = [] ∧ ∀ k', ks[lowerBound ks k]? = some k' → ord k' ≠ ord k) ∨
       ∃ k' v', M = [(k', v')] ∧ ks[lowerBound ks k]? = some k' ∧ vs[lowerBound ks k]? = some v' ∧ ord k' = ord k) := by
  have hA : ∀ p ∈ (ks.zip vs).take (lowerBound ks k), ord p.1 < ord k := fun p hp =>
    (lowerBound_spec ks k hs).1 _ (List.of_mem_zip (take_zip ks vs _ ▸ hp)).1
  have hlen : ((ks.zip vs).take (lowerBound ks k)).length = lowerBound ks k := by
    rw [List.length_take, List.length_zip, ← hl, Nat.min_self, Nat.min_eq_left (lowerBound_le ks k)]
  rcases lowerBound_hit_or_miss ks k with ⟨k', hk', he⟩ | hnf
  · obtain ⟨v', hv'⟩ := exists_getElem? (hl ▸ lt_of_getElem?_eq_some hk')
    refine ⟨_, [(k', v')], (ks.zip vs).drop (lowerBound ks k + 1), ?_, hlen, hA, fun p hp => ?_, .inr ⟨k', v', rfl, hk', hv', he⟩⟩
    · rw [List.append_assoc]; exact eq_take_cons_drop _ _ _ (List.getElem?_zip_eq_some.2 ⟨hk', hv'⟩)
    · obtain ⟨j, hj⟩ := mem_drop_iff_getElem?.1 (List.of_mem_zip (drop_zip ks vs _ ▸ hp)).1
      exact he ▸ hs.getElem?_lt hk' hj (by omega)
  · exact ⟨_, [], (ks.zip vs).drop (lowerBound ks k), by rw [List.append_nil, List.take_append_drop], hlen, hA,
      fun p hp => lowerBound_strict ks k hs hnf _ (List.of_mem_zip (drop_zip ks vs _ ▸ hp)).1, .inl ⟨rfl, hnf⟩⟩

theorem insert_zip (ks : List K) (vs : List V) (k : K) (v : V) (hs : KSorted ks) (hl : ks.length = vs.length) :
    insert (ks.zip vs) k v =
      if (ks[lowerBound ks k]?).map ord = some (ord k)
      then ks.zip (setAt vs (lowerBound ks k) v)
      else (insertAt ks (lowerBound ks k) k).zip (insertAt vs (lowerBound ks k) v) := by
  obtain ⟨A, M, B, e, hlen, hA, hB, hM⟩ := zip_lowerBound ks vs k hs hl
  rw [e, insert_append_right _ B k v hB, insert_append_left A M k v hA]
  rcases hM with ⟨rfl, hnf⟩ | ⟨k', v', rfl, hk, hv, he⟩
  · rw [if_neg (map_ord_ne_of_miss hnf), zip_insertAt _ _ _ _ _ hl, e, ← hlen, List.append_nil, insertAt_append, List.append_assoc]; rfl
  · rw [hk, if_pos (show Option.map ord (some k') = _ from congrArg some he), zip_setAt_right ks vs k' v hl hk, e, ← hlen,
      List.append_assoc, List.append_assoc, List.singleton_append, setAt_append_cons, insert, if_neg (he ▸ Int.lt_irrefl _),
      if_pos he.symm]; rfl

theorem erase_zip {ks : List K} {vs : List V} (k : K) (hs : KSorted ks) (hl : ks.length = vs.length) :
    erase (ks.zip vs) k =
      if (ks[lowerBound ks k]?).map ord = some (ord k)
      then (removeAt ks (lowerBound ks k)).zip (removeAt vs (lowerBound ks k))
      else ks.zip vs := by
  obtain ⟨A, M, B, e, hlen, hA, hB, hM⟩ := zip_lowerBound ks vs k hs hl
  rw [e, (Local.erase k).right _ B hB, (Local.erase k).left A M hA]
  rcases hM with ⟨rfl, hnf⟩ | ⟨k', v', rfl, hk, hv, he⟩
  · exact (if_neg (map_ord_ne_of_miss hnf)).symm
  · rw [hk, if_pos (show Option.map ord (some k') = _ from congrArg some he), zip_removeAt hl, e, ← hlen, List.append_assoc,
      List.append_assoc, List.singleton_append, removeAt_append_cons, erase, if_pos he]; rfl

theorem Sorted.lookup_tail {a : K × V} {m : List (K × V)} (hs : Sorted (a :: m)) {k : K} (h : ord k ≤ ord a.1) :
    lookup m k = none :=
  lookup_none_of_gt m k fun p hp => Int.lt_of_le_of_lt h ((List.pairwise_cons.1 hs).1 p hp)

theorem Sorted.tail {a : K × V} {m : List (K × V)} (hs : Sorted (a :: m)) : Sorted m := (List.pairwise_cons.1 hs).2

theorem Sorted.head_le {m : List (K × V)} (hs : Sorted m) {a : K × V} (ha : m.head? = some a) : ∀ p ∈ m, ord a.1 ≤ ord p.1 := by
  obtain ⟨ys, rfl⟩ := List.head?_eq_some_iff.1 ha
  intro p hp
  rcases List.mem_cons.1 hp with rfl | hp
  · exact Int.le_refl _
  · exact Int.le_of_lt ((List.pairwise_cons.1 hs).1 p hp)

theorem Sorted.le_getLast {m : List (K × V)} (hs : Sorted m) {z : K × V} (hz : m.getLast? = some z) : ∀ p ∈ m, ord p.1 ≤ ord z.1 := by
  obtain ⟨ys, rfl⟩ := List.getLast?_eq_some_iff.1 hz
  intro p hp
  rcases List.mem_append.1 hp with hp | hp
  · exact Int.le_of_lt ((List.pairwise_append.1 hs).2.2 p hp z (List.mem_singleton.2 rfl))
  · rw [List.mem_singleton.1 hp]; exact Int.le_refl _

theorem Sorted.filter {m : List (K × V)} (hs : Sorted m) (p : K × V → Bool) : Sorted (m.filter p) :=
  List.Pairwise.filter p hs

theorem Sorted.takeWhile_eq_filter {m : List (K × V)} (hs : Sorted m) {p : K × V → Bool}
    (hp : ∀ a b : K × V, ord a.1 < ord b.1 → p b = true → p a = true) : m.takeWhile p = m.filter p := by
  conv => rhs; rw [← List.takeWhile_append_dropWhile (p := p) (l := m), List.filter_append]
  rw [List.filter_eq_self.2 (List.all_eq_true.1 List.all_takeWhile),
    List.filter_eq_nil_iff.2 fun a ha => Bool.eq_false_iff.1 (dropWhile_false_of_pairwise hs hp a ha), List.append_nil]

theorem lookup_insert_self (m : List (K × V)) (k : K) (v : V) (hs : Sorted m) :
    lookup (insert m k v) k = some (((lookup m k).map (·.1)).getD k, v) := by
  fun_induction insert m k v with
  | case1 k v => exact lookup_head (k, v) []
  | case2 k' v' m k v hlt =>
    rw [lookup_head (k, v), lookup_cons, if_neg (Int.ne_of_gt hlt), hs.lookup_tail (Int.le_of_lt hlt)]; rfl
  | case3 k' v' m k v hlt he => rw [lookup_cons, lookup_cons, if_pos he.symm, if_pos he.symm]; rfl
  | case4 k' v' m k v hlt hne ih =>
    rw [lookup_cons, lookup_cons, if_neg (Ne.symm hne), if_neg (Ne.symm hne), ih hs.tail]

theorem lookup_insert_ne (m : List (K × V)) (k j : K) (v : V) (hne : ord j ≠ ord k) :
    lookup (insert m k v) j = lookup m j := by
  fun_induction insert m k v with
  | case1 k v => exact (lookup_cons ..).trans (if_neg (Ne.symm hne))
  | case2 k' v' m k v hlt => exact (lookup_cons ..).trans (if_neg (Ne.symm hne))
  | case3 k' v' m k v hlt he =>
    have hn : ¬ ord k' = ord j := fun h => hne (h.symm.trans he.symm)
    rw [lookup_cons, lookup_cons, if_neg hn, if_neg hn]
  | case4 k' v' m k v hlt hne' ih => rw [lookup_cons, lookup_cons, ih hne]

theorem lookup_erase_ne (m : List (K × V)) (k j : K) (hne : ord j ≠ ord k) :
    lookup (erase m k) j = lookup m j := by
  fun_induction erase m k with
  | case1 k => rfl
  | case2 k' v' m k he => rw [lookup_cons, if_neg fun h => hne (h.symm.trans he)]
  | case3 k' v' m k hne' ih => rw [lookup_cons, lookup_cons, ih hne]

theorem lookup_erase_self (m : List (K × V)) (k : K) (hs : Sorted m) : lookup (erase m k) k = none := by
  fun_induction erase m k with
  | case1 k => rfl
  | case2 k' v' m k he => exact hs.lookup_tail (Int.le_of_eq he.symm)
  | case3 k' v' m k hne ih => rw [lookup_cons, if_neg hne, ih hs.tail]

theorem ne_of_lookup_none {m : List (K × V)} {k : K} (h : lookup m k = none) : ∀ p ∈ m, ord p.1 ≠ ord k := by
  intro p hp he
  have := List.find?_eq_none.1 h p hp
  simp [he] at this

theorem erase_of_lookup_none {m : List (K × V)} (k : K) (h : lookup m k = none) : erase m k = m :=
  erase_of_ne m k (ne_of_lookup_none h)

theorem length_insert (m : List (K × V)) (k : K) (v : V) (hs : Sorted m) :
    (insert m k v).length = if (lookup m k).isSome then m.length else m.length + 1 := by
  fun_induction insert m k v with
  | case1 k v => rfl
  | case2 k' v' m k v hlt =>
    rw [lookup_cons, if_neg (Int.ne_of_gt hlt), hs.lookup_tail (Int.le_of_lt hlt)]; rfl
  | case3 k' v' m k v hlt he => rw [lookup_cons, if_pos he.symm]; rfl
  | case4 k' v' m k v hlt hne ih =>
    rw [lookup_cons, if_neg (Ne.symm hne), List.length_cons, ih hs.tail]
    split <;> rfl

theorem length_erase (m : List (K × V)) (k : K) :
    (erase m k).length = if (lookup m k).isSome then m.length - 1 else m.length := by
  fun_induction erase m k with
  | case1 k => rfl
  | case2 k' v' m k he => rw [lookup_cons, if_pos he]; rfl
  | case3 k' v' m k hne ih =>
    rw [lookup_cons, if_neg hne, List.length_cons, ih]
    -- a lookup that succeeds shows the tail is not empty, so `m.length - 1 + 1 = m.length`
    cases hl : lookup m k with
    | none => rfl
    | some p =>
      cases m with
      | nil => cases hl
      | cons b m => rfl

theorem lookup_adjust_ne (m : List (K × V)) (k j : K) (v : V) (hne : ord j ≠ ord k) :
    lookup (adjust m k v) j = lookup m j := by
  fun_induction adjust m k v with
  | case1 k v => rfl
  | case2 k' v' m k v he =>
    have hn : ¬ ord k' = ord j := fun h => hne (h.symm.trans he)
    rw [lookup_cons, lookup_cons, if_neg hn, if_neg hn]
  | case3 k' v' m k v hne' ih => rw [lookup_cons, lookup_cons, ih hne]

theorem adjust_of_lookup_none {m : List (K × V)} (k : K) (v : V) (h : lookup m k = none) :
    adjust m k v = m :=
  adjust_of_ne m k v (ne_of_lookup_none h)

theorem adjust_eq_insert {m : List (K × V)} (k : K) (v : V) (hs : Sorted m)
    (h : (lookup m k).isSome) : adjust m k v = insert m k v := by
  fun_induction adjust m k v with
  | case1 k v => cases h
  | case2 k' v' m k v he => rw [insert, if_neg (he ▸ Int.lt_irrefl _), if_pos he.symm]
  | case3 k' v' m k v hne ih =>
    rw [lookup_cons, if_neg hne] at h
    -- `k` is further back, so it is not below the head
    have hlt : ¬ ord k < ord k' := fun hlt => by rw [hs.lookup_tail (Int.le_of_lt hlt)] at h; cases h
    rw [insert, if_neg hlt, if_neg (Ne.symm hne), ih hs.tail h]

theorem erase_head (p : K × V) (rest : List (K × V)) : erase (p :: rest) p.1 = rest := by
  simp [erase]

theorem foldl_insert_sorted (L : List (K × V)) : ∀ (A : List (K × V)), Sorted (A ++ L) →
    L.foldl (fun m kv => insert m kv.1 kv.2) A = A ++ L := by
  induction L with
  | nil => intro A _; simp
  | cons p L ih =>
    intro A hs
    simp only [List.foldl_cons]
    have hlt : ∀ q ∈ A, ord q.1 < ord p.1 := by
      intro q hq
      unfold Sorted at hs
      rw [List.pairwise_append] at hs
      exact hs.2.2 q hq p List.mem_cons_self
    rw [insert_of_lt A p.1 p.2 hlt, ih (A ++ [p]) (by simpa using hs)]
    simp

end SMap
end BPT
