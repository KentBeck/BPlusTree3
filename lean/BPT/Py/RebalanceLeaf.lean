import BPT.Py.Rebalance
/-
  `_handle_underflow` for a leaf child: right donor, then left donor, then a capacity-guarded merge
  (with the left sibling if there is one); an empty leaf is merged straight away.
-/
namespace BPT.Py
open BPT Tree
variable {K V : Type} [Keyed K]

theorem mergeLeafSibling_short (cap : Nat) (b : Branch K (Leaf K V)) (i : Nat) (lo hi : Option Int) (c : Leaf K V)
    (hp : Short cap (minKeys cap) 1 0 (b : Branch K (Tree K V 0)) i lo hi) (hc : b.children[i]? = some c)
    (hfit : ∀ s, b.children[mergePartner i]? = some s → s.keys.length + c.keys.length ≤ cap) :
    ∃ b2, mergeLeafSibling cap b i = some b2 ∧ Mended cap (minKeys cap) 1 0 (b : Branch K (Tree K V 0)) b2 lo hi := by
  have hlen : b.children.length = b.keys.length + 1 := hp.ord.arity
  unfold mergeLeafSibling
  simp only [show ¬ (b.keys.length + 1 ≠ b.children.length) from fun h => h hlen.symm, if_false, hc]
  cases i with
  | succ j =>
    obtain ⟨a, haj⟩ := exists_getElem? (Nat.lt_of_succ_lt hp.idx)
    have hfit' := hfit a haj
    simp only [Nat.succ_pos, if_true, Nat.add_sub_cancel, haj, hfit']
    exact ⟨_, rfl, (hp.leafMerge haj hc (Or.inr rfl) hfit').2⟩
  | zero =>
    -- a branch holds a key (`Short.nk`), so the first child has a right sibling
    have hr : 0 + 1 < b.children.length := hlen ▸ Nat.succ_lt_succ hp.nk
    obtain ⟨r, hrj⟩ := exists_getElem? hr
    have hfit' : c.keys.length + r.keys.length ≤ cap := Nat.add_comm _ _ ▸ hfit r hrj
    simp only [Nat.lt_irrefl, if_false, hr, if_true, hrj, hfit']
    exact ⟨_, rfl, (hp.leafMerge hc hrj (Or.inl rfl) hfit').2⟩

theorem handleLeafLeft_short (cap : Nat) (b : Branch K (Leaf K V)) (i : Nat) (lo hi : Option Int)
    (c : Leaf K V) (hp : Short cap (minKeys cap) 1 0 (b : Branch K (Tree K V 0)) i lo hi) (hc : b.children[i]? = some c)
    (hrnd : ∀ r, b.children[i+1]? = some r → ¬ minKeys cap < r.keys.length) :
    ∃ b2, handleLeafLeft cap b i c = some b2 ∧ Mended cap (minKeys cap) 1 0 (b : Branch K (Tree K V 0)) b2 lo hi := by
  -- a sibling that did not donate is not a donor, so the merge fits
  have mergeOK : (∀ s, b.children[mergePartner i]? = some s → ¬ minKeys cap < s.keys.length) →
      ∃ b2, mergeLeafSibling cap b i = some b2 ∧ Mended cap (minKeys cap) 1 0 (b : Branch K (Tree K V 0)) b2 lo hi :=
    fun hnd => mergeLeafSibling_short cap b i lo hi c hp hc fun s hs =>
      Nat.le_of_succ_le (Nat.le_of_succ_le (hp.sibling_fit hs (mergePartner_ne i) (hnd s hs) hc).2)
  unfold handleLeafLeft
  cases i with
  | zero =>
    rw [sibLeft_zero]
    exact mergeOK hrnd
  | succ j =>
    obtain ⟨a, haj⟩ := exists_getElem? (show j < b.children.length from Nat.lt_of_succ_lt hp.idx)
    simp only [sibLeft_succ, haj, canDonate_iff]
    by_cases hdon : minKeys cap < a.keys.length
    · rw [if_pos hdon]
      obtain ⟨a', c', k, he, hjk, hm⟩ := hp.leafBorrowLeft haj hc hdon
      exact ⟨_, by simp [leafBorrowLeftAt, leafBorrowLeft_eq, he, hjk, replace2_eq], hm⟩
    · rw [if_neg hdon]
      refine mergeOK (fun s hs => ?_)
      rw [mergePartner_succ, haj] at hs
      cases hs; exact hdon

theorem handleLeaf_short (cap : Nat) (b : Branch K (Leaf K V)) (i : Nat) (lo hi : Option Int)
    (hp : Short cap (minKeys cap) 1 0 (b : Branch K (Tree K V 0)) i lo hi) :
    ∃ b2, handleLeaf cap b i = some b2 ∧ Mended cap (minKeys cap) 1 0 (b : Branch K (Tree K V 0)) b2 lo hi := by
  obtain ⟨c, hci⟩ := exists_getElem? hp.idx
  have hclen : c.keys.length = minKeys cap - 1 := hp.under c hci
  have hmk := hp.one_le
  unfold handleLeaf
  have hund : isUnderfull cap c.keys.length = true := decide_eq_true (by omega)
  simp only [hci, hund, not_true_eq_false, if_false]
  by_cases hc0 : c.keys.length = 0
  · -- an empty leaf fits with any sibling
    simp only [hc0, if_true]
    refine mergeLeafSibling_short cap b i lo hi c hp hci (fun s hs => ?_)
    have : s.keys.length ≤ cap := (hp.other hs (mergePartner_ne i)).nkeys.2
    omega
  · simp only [hc0, if_false]
    rw [sibRight_eq]
    cases hrj : b.children[i+1]? with
    | none => exact handleLeafLeft_short cap b i lo hi c hp hci (fun r' hr' => by rw [hrj] at hr'; cases hr')
    | some r =>
      simp only [canDonate_iff]
      by_cases hdr : minKeys cap < r.keys.length
      · rw [if_pos hdr]
        obtain ⟨c', r', k, he, hik, hm⟩ := hp.leafBorrowRight hci hrj hdr
        exact ⟨_, by simp [leafBorrowRightAt, leafBorrowRight_eq, he, hik, replace2_eq], hm⟩
      · rw [if_neg hdr]
        exact handleLeafLeft_short cap b i lo hi c hp hci (fun r' hr' => by rw [hrj] at hr'; cases hr'; exact hdr)

theorem handleLeaf_spec (cap : Nat) (b : Branch K (Leaf K V)) (i : Nat) (lo hi : Option Int)
    (hp : RebPre cap 0 (b : Branch K (Tree K V 0)) i lo hi) :
    ∃ b2, handleLeaf cap b i = some b2 ∧ RebPost cap 0 (b : Branch K (Tree K V 0)) b2 lo hi :=
  let ⟨b2, he, hm⟩ := handleLeaf_short cap b i lo hi hp.short
  ⟨b2, he, .of_mended hm⟩

end BPT.Py
