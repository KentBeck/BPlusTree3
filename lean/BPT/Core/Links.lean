import BPT.Core.Surgery
/- The leaf chain, positionally: `links t` is the in-order list of (id, next) of the leaves of `t`; insert replaces
   one link by one or two, remove fuses two adjacent links or none.  The declarations carry the prefix `Rust.`; all
   three implementations use them. -/
namespace BPT.Rust
open BPT Tree
variable {K V : Type}

def link (l : Leaf K V) : Nat × Nat := (l.id, l.next)
def links (h : Nat) (t : Tree K V h) : List (Nat × Nat) := (leaves h t).map link

theorem links_zero (l : Leaf K V) : links 0 (l : Tree K V 0) = [(l.id, l.next)] := rfl
theorem links_succ (h : Nat) (b : Branch K (Tree K V h)) :
    links (h+1) (b : Tree K V (h+1)) = b.children.flatMap (links h) := by
  simp only [links, leaves, List.map_flatMap]
  rfl

theorem links_replace1_eq {h : Nat} {b : Branch K (Tree K V h)} {i : Nat} {c c' : Tree K V h}
    (hc : b.children[i]? = some c) (e : links h c' = links h c) :
    links (h+1) (b.replace1 i c' : Tree K V (h+1)) = links (h+1) (b : Tree K V (h+1)) := by
  rw [links_succ, links_succ]; exact Branch.flatMap_replace1_eq (links h) hc e

theorem links_grow (h : Nat) (l r : Tree K V h) (sep : K) (id : Nat) :
    links (h+1) (({ id := id, keys := [sep], children := [l, r] } : Branch K (Tree K V h)) : Tree K V (h+1)) =
      links h l ++ links h r := by
  rw [links_succ]; simp

/-- id of the first link, or `nxt` when there is none -/
def firstOf (L : List (Nat × Nat)) (nxt : Nat) : Nat := match L with | [] => nxt | p :: _ => p.1

/-- consecutive links are chained, the last one points to `nxt` -/
def ChainL : List (Nat × Nat) → Nat → Prop
  | [], _ => True
  | p :: rest, nxt => p.2 = firstOf rest nxt ∧ ChainL rest nxt

theorem firstOf_append (A B : List (Nat × Nat)) (nxt : Nat) : firstOf (A ++ B) nxt = firstOf A (firstOf B nxt) := by
  cases A <;> rfl

theorem chainL_append (A B : List (Nat × Nat)) (nxt : Nat) :
    ChainL (A ++ B) nxt ↔ ChainL A (firstOf B nxt) ∧ ChainL B nxt := by
  induction A with
  | nil => simp [ChainL]
  | cons p A ih =>
    simp only [List.cons_append, ChainL, ih, firstOf_append]
    constructor
    · rintro ⟨h1, h2, h3⟩; exact ⟨⟨h1, h2⟩, h3⟩
    · rintro ⟨⟨h1, h2⟩, h3⟩; exact ⟨h1, h2, h3⟩

theorem chainL_splice {A X Y B : List (Nat × Nat)} {nxt : Nat} (h : ChainL (A ++ X ++ B) nxt)
    (hf : ∀ n, firstOf Y n = firstOf X n) (hY : ChainL X (firstOf B nxt) → ChainL Y (firstOf B nxt)) :
    ChainL (A ++ Y ++ B) nxt ∧ firstOf (A ++ Y ++ B) nxt = firstOf (A ++ X ++ B) nxt := by
  simp only [List.append_assoc, chainL_append, firstOf_append, hf] at h ⊢
  exact ⟨⟨h.1, hY h.2.1, h.2.2⟩, trivial⟩

theorem chainL_split (A B : List (Nat × Nat)) (i n new nxt : Nat) (h : ChainL (A ++ [(i, n)] ++ B) nxt) :
    ChainL (A ++ [(i, new), (new, n)] ++ B) nxt ∧ firstOf (A ++ [(i, new), (new, n)] ++ B) nxt = firstOf (A ++ [(i, n)] ++ B) nxt :=
  chainL_splice h (fun _ => rfl) fun h => ⟨rfl, h⟩

theorem chainL_merge (A B : List (Nat × Nat)) (ia na ib nb nxt : Nat) (h : ChainL (A ++ [(ia, na), (ib, nb)] ++ B) nxt) :
    ChainL (A ++ [(ia, nb)] ++ B) nxt ∧ firstOf (A ++ [(ia, nb)] ++ B) nxt = firstOf (A ++ [(ia, na), (ib, nb)] ++ B) nxt :=
  chainL_splice h (fun _ => rfl) fun h => h.2

theorem chainL_suffix {P S : List (Leaf K V)} {nxt : Nat} (h : ChainL ((P ++ S).map link) nxt) : ChainL (S.map link) nxt := by
  rw [List.map_append, chainL_append] at h
  exact h.2

end BPT.Rust
