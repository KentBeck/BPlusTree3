import BPT.Rust.Checked
import BPT.Rust.ValidatorComplete
import BPT.Rust.Churn
/-
  The checked / bulk API on valid states (`SInv`; `Small`: handles within `u32`): the validations always pass,
  so each wrapper has the effect and result of the call it wraps.
-/
namespace BPT.Rust
open BPT
variable {K V : Type} [Keyed K]

theorem checkedEntry_view (s : RState K V) (hs : SInv s) (hsm : Small s) : checkedEntry Cfg.repaired (view s) = none := by
  unfold checkedEntry; rw [view_checkDetailed s hs hsm]

theorem validOk_of_sinv (s : RState K V) (hs : SInv s) (hsm : Small s) : validOk Cfg.repaired s = true := by
  unfold validOk; rw [checkedEntry_view s hs hsm]; rfl

/-- `try_insert` = `insert`, wrapped in `Ok`.  `insert` may grow an arena, so the caller vouches for `Small s'`
    (over a batch: `SmallRun`); `remove` never grows one. -/
theorem tryInsert_spec (s s' : RState K V) (k : K) (v : V) (old : Option V) (hs : SInv s) (hsm : Small s)
    (he : insert s k v = some (s', old)) (hsm' : Small s') :
    tryInsert Cfg.repaired s k v = some (s', .ok old) := by
  unfold tryInsert
  rw [validOk_of_sinv s hs hsm, if_pos rfl, he]
  simp only []   -- the `match` on `insert s k v`, now `some (s', old)`, reduces to its branch
  rw [validOk_of_sinv s' (insert_sinv s k v hs s' old he) hsm', if_pos rfl]

theorem remove_small (s s' : RState K V) (k : K) (r : Option V) (hs : SInv s) (he : remove s k = some (s', r))
    (hsm : Small s) : Small s' := by
  have := remove_lens s s' k r hs he
  unfold Small at *; unfold sameLens at this; omega

/-- `try_remove` = `remove(k).ok_or(KeyNotFound)` -/
theorem tryRemove_spec (s s' : RState K V) (k : K) (r : Option V) (hs : SInv s) (hsm : Small s)
    (he : remove s k = some (s', r)) :
    tryRemove Cfg.repaired s k = some (s', okOrKeyNotFound r) := by
  unfold tryRemove
  rw [validOk_of_sinv s hs hsm, if_pos rfl, he]
  have hv := validOk_of_sinv s' (remove_sinv s k hs s' _ he) (remove_small s s' k r hs he hsm)
  cases r with
  | none => rfl
  | some old =>
    simp only [okOrKeyNotFound]
    rw [hv, if_pos rfl]

theorem removeItem_spec (s s' : RState K V) (k : K) (r : Option V) (he : remove s k = some (s', r)) :
    removeItem s k = some (s', okOrKeyNotFound r) := by
  unfold removeItem; rw [he]; rfl

/-- the two removing wrappers in terms of the abstract map -/
theorem tryRemove_abs (s : RState K V) (k : K) (hs : SInv s) (hsm : Small s) :
    ∃ s', tryRemove Cfg.repaired s k = some (s', okOrKeyNotFound ((SMap.lookup (abs s) k).map (·.2))) ∧
      removeItem s k = some (s', okOrKeyNotFound ((SMap.lookup (abs s) k).map (·.2))) ∧
      SInv s' ∧ abs s' = SMap.erase (abs s) k := by
  obtain ⟨s', old, he, _, habs, hold, _⟩ := remove_spec s k hs.inv
  refine ⟨s', ?_, ?_, remove_sinv s k hs s' old he, habs⟩
  · rw [tryRemove_spec s s' k old hs hsm he, hold]
  · rw [removeItem_spec s s' k old he, hold]

/-- `try_get` / `get_item` -/
theorem tryGet_spec (s : RState K V) (k : K) (hi : Inv s) :
    tryGet s k = okOrKeyNotFound ((SMap.lookup (abs s) k).map (·.2)) := by
  unfold tryGet; rw [get_spec s k hi]

theorem okOr_keyNotFound_iff {α β : Type} {o : Option α} {f : α → β} :
    okOrKeyNotFound (o.map f) = .error .keyNotFound ↔ o = none := by
  cases o <;> simp [okOrKeyNotFound]

/-- `get_many`: KeyNotFound if some requested key is absent, otherwise one value per key in request order -/
theorem getManyE_spec (s : RState K V) (hi : Inv s) : ∀ (ks : List K),
    ((∃ k ∈ ks, SMap.lookup (abs s) k = none) → getManyE s ks = .error .keyNotFound) ∧
    ((∀ k ∈ ks, SMap.lookup (abs s) k ≠ none) →
      getManyE s ks = .ok (ks.filterMap (fun k => (SMap.lookup (abs s) k).map (·.2))) ∧
      (ks.filterMap (fun k => (SMap.lookup (abs s) k).map (·.2))).length = ks.length) := by
  intro ks
  induction ks with
  | nil => exact ⟨fun h => (by obtain ⟨_, h, _⟩ := h; cases h), fun _ => ⟨rfl, rfl⟩⟩
  | cons k ks ih =>
    unfold getManyE
    rw [tryGet_spec s k hi]
    cases hl : SMap.lookup (abs s) k with
    | none =>
      refine ⟨fun _ => rfl, fun h => ?_⟩
      exact absurd hl (h k List.mem_cons_self)
    | some p =>
      simp only [Option.map_some, okOrKeyNotFound]
      refine ⟨?_, ?_⟩
      · intro ⟨k', hk', hn⟩
        rcases List.mem_cons.1 hk' with rfl | hk'
        · rw [hl] at hn; cases hn
        · rw [ih.1 ⟨k', hk', hn⟩]
      · intro h
        obtain ⟨h1, h2⟩ := ih.2 (fun k' hk' => h k' (List.mem_cons_of_mem _ hk'))
        rw [h1]
        simp [hl, h2]

/-- every state `batch_insert` passes through stays within the `u32` handle range -/
def SmallRun : RState K V → List (K × V) → Prop
  | s, [] => Small s
  | s, (k, v) :: rest => Small s ∧ ∀ s' old, insert s k v = some (s', old) → SmallRun s' rest

theorem SmallRun.small {s : RState K V} : ∀ {items : List (K × V)}, SmallRun s items → Small s
  | [], h => h
  | _ :: _, h => h.1

theorem batchInsertLoop_spec : ∀ (items : List (K × V)) (s : RState K V) (inserted : List K) (acc : List (Option V)),
    SInv s → SmallRun s items →
    batchInsertLoop Cfg.repaired items s inserted acc = (insertAll s items).map fun r => (r.1, .ok (acc.reverse ++ r.2)) := by
  intro items
  induction items with
  | nil => intro s ins acc _ _; simp only [batchInsertLoop, insertAll, Option.map_some, List.append_nil]
  | cons kv rest ih =>
    intro s ins acc hs hsm
    obtain ⟨k, v⟩ := kv
    obtain ⟨hsm0, hrest⟩ := hsm
    unfold batchInsertLoop insertAll
    obtain ⟨s', old, he, _⟩ := insert_spec s k v hs.inv
    rw [he, tryInsert_spec s s' k v old hs hsm0 he (hrest s' old he).small]
    simp only []   -- both `match`es, now on `some (s', .ok old)` and `some (s', old)`, reduce to their branches
    rw [ih s' _ _ (insert_sinv s k v hs s' old he) (hrest s' old he)]
    cases insertAll s' rest with
    | none => rfl
    | some r => simp

/-- `batch_insert` = the same inserts one by one, results in order, never an error -/
theorem batchInsert_spec (s : RState K V) (items : List (K × V)) (hs : SInv s) (hsm : SmallRun s items) :
    batchInsert Cfg.repaired s items = (insertAll s items).map fun r => (r.1, .ok r.2) := by
  unfold batchInsert
  rw [batchInsertLoop_spec items s [] [] hs hsm]
  simp

/-- `validate_for_operation` / `validate` -/
theorem validateForOperation_ok (s : RState K V) (hs : SInv s) (hsm : Small s) :
    validateForOperation Cfg.repaired s = .ok () := by
  unfold validateForOperation; rw [validOk_of_sinv s hs hsm, if_pos rfl]

/-- when the detailed validation rejects the state, every checked mutator refuses and leaves the map as it was
    (`batch_insert`: nothing was inserted, the rollback loop is empty) -/
theorem refuse_unchanged (cfg : Cfg) (s : RState K V) (h : validOk cfg s = false) (k : K) (v : V) (rest : List (K × V)) :
    tryInsert cfg s k v = some (s, .error .dataIntegrity) ∧ tryRemove cfg s k = some (s, .error .dataIntegrity) ∧
    batchInsert cfg s ((k, v) :: rest) = some (s, .error .dataIntegrity) ∧ validateForOperation cfg s = .error .dataIntegrity := by
  have hi : tryInsert cfg s k v = some (s, .error .dataIntegrity) := by unfold tryInsert; simp [h]
  refine ⟨hi, by unfold tryRemove; simp [h], ?_, by unfold validateForOperation; simp [h]⟩
  unfold batchInsert batchInsertLoop
  rw [hi]
  rfl

/-- on ANY arena state the detailed validation rejects, the checked mutators return at their first statement -/
theorem checkedEntry_refuses (cfg : Cfg) (m : RawMap K V) (h : m.checkDetailed cfg ≠ .ok none) :
    checkedEntry cfg m = some .dataIntegrity := by
  unfold checkedEntry
  cases hc : m.checkDetailed cfg with
  | ok o => cases o with
    | none => exact absurd hc h
    | some _ => rfl
  | panic => rfl
  | diverge => rfl
  | ub => rfl

theorem validOk_of_rejects (cfg : Cfg) (s : RState K V) (h : (view s).checkDetailed cfg ≠ .ok none) : validOk cfg s = false := by
  unfold validOk; rw [checkedEntry_refuses cfg (view s) h]; rfl

end BPT.Rust
