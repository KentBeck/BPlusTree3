import BPT.Rust.RawEq
import BPT.Rust.Chain
import BPT.Core.Leaves
/-
  `ItemIterator` over any raw map: from a state *positioned* on a stored chain with `R` remaining, one `next()` returns
  the head of `R` (or stops at the end bound) and stays positioned on the tail; `collect()` from there, and from the
  head of a chain (`items()`).
-/
namespace BPT.Rust
open BPT Tree RawMap
variable {K V : Type} [Keyed K]

/-- iterator state `st` is positioned so that exactly `R` remains, with `n` leaves still ahead -/
inductive Pos (m : RawMap K V) (cap : Nat) : ItState K V → List (K × V) → Nat → Prop where
  | done (st : ItState K V) (n : Nat) : st.leaf = none → Pos m cap st [] n
  | at (st : ItState K V) (l : Leaf K V) (rest : List (Leaf K V)) (nxt n : Nat) :
      st.leaf = some (leafToRaw cap l) → l.keys.length = l.vals.length → RawChain m cap rest nxt → l.next = nxt →
      st.idx ≤ l.keys.length → rest.length = n →
      Pos m cap st (l.entries.drop st.idx ++ rest.flatMap Leaf.entries) n

/-- the two states carry the same end bound (`next()` never changes it) -/
def sameEnd (a b : ItState K V) : Prop := a.endKey = b.endKey ∧ a.endBound = b.endBound ∧ a.endIncl = b.endIncl

theorem sameEnd.key {a b : ItState K V} (h : sameEnd a b) : a.endKey = b.endKey := h.1
theorem sameEnd.bound {a b : ItState K V} (h : sameEnd a b) : a.endBound = b.endBound := h.2.1
theorem sameEnd.incl {a b : ItState K V} (h : sameEnd a b) : a.endIncl = b.endIncl := h.2.2

theorem sameEnd.trans {a b c : ItState K V} (h1 : sameEnd a b) (h2 : sameEnd b c) : sameEnd a c :=
  ⟨h1.key.trans h2.key, h1.bound.trans h2.bound, h1.incl.trans h2.incl⟩

theorem beyondEnd_congr (cfg : Cfg) (a b : ItState K V) (h : sameEnd a b) (k : K) : beyondEnd cfg a k = beyondEnd cfg b k := by
  unfold beyondEnd; rw [h.key, h.bound, h.incl]

/-- the conclusion of `itemNext_pos` with any bound `N` on the leaves still ahead afterwards -/
def NextSpec (cfg : Cfg) (m : RawMap K V) (cap fuel : Nat) (st : ItState K V) (R : List (K × V)) (N : Nat) : Prop :=
  ∃ out st', itemNext cfg m fuel st = .ok (out, st') ∧ sameEnd st' st ∧
    match R with
    | [] => out = none ∧ Pos m cap st' [] 0
    | kv :: R' =>
      if beyondEnd cfg st kv.1 then out = none ∧ st'.leaf = none
      else out = some kv ∧ ∃ n', Pos m cap st' R' n' ∧ n' ≤ N

/-- one `next()` call from a positioned state -/
theorem itemNext_pos (cfg : Cfg) (m : RawMap K V) (cap : Nat) :
    ∀ (n : Nat) (st : ItState K V) (R : List (K × V)) (fuel : Nat), Pos m cap st R n → n + 1 ≤ fuel →
      ∃ out st', itemNext cfg m fuel st = .ok (out, st') ∧ sameEnd st' st ∧
        match R with
        | [] => out = none ∧ Pos m cap st' [] 0
        | kv :: R' =>
          if beyondEnd cfg st kv.1 then out = none ∧ st'.leaf = none
          else out = some kv ∧ ∃ n', Pos m cap st' R' n' ∧ n' ≤ n := by
  intro n st R fuel hp hf
  -- a hop to the next leaf lowers `n`, so the induction carries any bound `N ≥ n`: the hypothesis for the state after a
  -- hop is then the claim for the state before it (`R` is the same, and so are the end fields, by computation)
  suffices h : ∀ N, n ≤ N → NextSpec cfg m cap fuel st R N from h n (Nat.le_refl n)
  induction fuel generalizing n st R with
  | zero => exact absurd hf (Nat.not_succ_le_zero n)
  | succ f ih =>
    intro N hN
    rcases hp with ⟨_, hnone⟩ | ⟨l, rest, nxt, _, hleaf, hl, hch, hnx, hidx, rfl⟩
    · exact ⟨none, st, itemNext_none cfg m f st hnone, ⟨rfl, rfl, rfl⟩, rfl, Pos.done _ _ hnone⟩
    · by_cases hi : st.idx < l.keys.length
      · have hv : st.idx < l.vals.length := hl ▸ hi
        have hstep := itemNext_inside cfg m f st (leafToRaw cap l) hleaf hi hv
        simp only [Leaf.entries, zip_drop_cons hi hv, List.cons_append]
        by_cases hb : beyondEnd cfg st l.keys[st.idx] = true
        · exact ⟨none, _, hstep.trans (if_pos hb), ⟨rfl, rfl, rfl⟩, (if_pos hb).mpr ⟨rfl, rfl⟩⟩
        · refine ⟨_, _, hstep.trans (if_neg hb), ⟨rfl, rfl, rfl⟩, (if_neg hb).mpr ?_⟩
          exact ⟨rfl, rest.length, Pos.at (m := m) { st with idx := st.idx + 1 } l rest nxt _ hleaf hl hch hnx hi rfl, hN⟩
      · have hstep := itemNext_past cfg m f st (leafToRaw cap l) hleaf (Nat.le_of_not_lt hi)
        rw [entries_drop_nil l (Nat.le_of_not_lt hi), List.nil_append]
        cases hch with
        | nil =>
          exact ⟨none, _, hstep.trans (if_pos hnx), ⟨rfl, rfl, rfl⟩, rfl, Pos.done _ _ rfl⟩
        | cons l' rest' nxt2 hget hl' hne hnx2 hrest =>
          have hnext : (leafToRaw cap l).next = l'.id := hnx
          obtain ⟨out, st', he, hres⟩ := ih rest'.length { st with leaf := some (leafToRaw cap l'), idx := 0 } _
            (Pos.at _ l' rest' nxt2 _ rfl hl' hrest hnx2 (Nat.zero_le _) rfl) (Nat.le_of_succ_le_succ hf)
            N (Nat.le_of_succ_le hN)
          rw [List.flatMap_cons]
          exact ⟨out, st', by rw [hstep, hnext, if_neg hne, hget]; exact he, hres⟩

theorem itemNext_pos_noEnd (cfg : Cfg) (m : RawMap K V) (cap n : Nat) (st : ItState K V) (R : List (K × V)) (fuel : Nat)
    (hp : Pos m cap st R n) (hf : n + 1 ≤ fuel) (h1 : st.endKey = none) (h2 : st.endBound = none) :
    ∃ st' n', itemNext cfg m fuel st = .ok (R.head?, st') ∧ Pos m cap st' R.tail n' ∧ n' ≤ n ∧
      st'.endKey = none ∧ st'.endBound = none := by
  obtain ⟨out, st', he, hse, hres⟩ := itemNext_pos cfg m cap n st R fuel hp hf
  cases R with
  | nil => exact ⟨st', 0, by rw [he, hres.1]; rfl, hres.2, Nat.zero_le _, hse.key.trans h1, hse.bound.trans h2⟩
  | cons kv R' =>
    have hb : ¬ beyondEnd cfg st kv.1 = true := by simp [beyondEnd, h1, h2]
    obtain ⟨ho, n', hp', hn'⟩ := (if_neg hb).mp hres
    exact ⟨st', n', by rw [he, ho]; rfl, hp', hn', hse.key.trans h1, hse.bound.trans h2⟩

theorem drain_pos (cfg : Cfg) (m : RawMap K V) (cap : Nat) (fuel : Nat) :
    ∀ (N : Nat) (st : ItState K V) (R : List (K × V)) (n : Nat), Pos m cap st R n → n + 1 ≤ fuel →
      (R.takeWhile (fun kv => ! beyondEnd cfg st kv.1)).length < N →
      drain (itemNext cfg m fuel) N st = .ok (R.takeWhile (fun kv => ! beyondEnd cfg st kv.1)) := by
  intro N st R n hp hf hN
  refine drain_of_steps (itemNext cfg m fuel)
    (fun st' T => ∃ R' n', Pos m cap st' R' n' ∧ n' + 1 ≤ fuel ∧ sameEnd st' st ∧
      T = R'.takeWhile (fun kv => ! beyondEnd cfg st kv.1)) ?_ N st _ ⟨R, n, hp, hf, ⟨rfl, rfl, rfl⟩, rfl⟩ hN
  rintro st1 T ⟨R1, n1, hp1, hf1, hse1, rfl⟩
  obtain ⟨out, st2, he, hse, hres⟩ := itemNext_pos cfg m cap n1 st1 R1 fuel hp1 hf1
  refine ⟨out, st2, he, ?_⟩
  cases R1 with
  | nil => exact hres.1
  | cons kv R' =>
    simp only [beyondEnd_congr cfg st1 st hse1] at hres
    by_cases hb : beyondEnd cfg st kv.1 = true
    · simp only [List.takeWhile_cons, hb, Bool.not_true, Bool.false_eq_true, if_false]
      exact ((if_pos hb).mp hres).1
    · obtain ⟨h1, n', h2, h3⟩ := (if_neg hb).mp hres
      simp only [List.takeWhile_cons, hb, Bool.not_false, if_true]
      exact ⟨h1, R', n', h2, Nat.le_trans (Nat.succ_le_succ h3) hf1, hse.trans hse1, rfl⟩

theorem RawChain.pos {m : RawMap K V} {cap : Nat} {l : Leaf K V} {rest : List (Leaf K V)} {x : Nat}
    (h : RawChain m cap (l :: rest) x) (st : ItState K V) (hleaf : st.leaf = some (leafToRaw cap l)) (hidx : st.idx ≤ l.keys.length) :
    Pos m cap st (l.entries.drop st.idx ++ rest.flatMap Leaf.entries) rest.length ∧ rest.length + 1 ≤ m.fuel := by
  obtain ⟨_, _, h2, _, h5⟩ := h.inv_cons
  exact ⟨Pos.at st l rest l.next _ hleaf h2 h5 rfl hidx rfl, h5.length_lt_fuel⟩

theorem RawChain.drain_at {m : RawMap K V} {cap : Nat} {l : Leaf K V} {rest : List (Leaf K V)} {x : Nat}
    (h : RawChain m cap (l :: rest) x) (cfg : Cfg) (st : ItState K V) (hleaf : st.leaf = some (leafToRaw cap l))
    (hidx : st.idx ≤ l.keys.length) :
    RawMap.drain (itemNext cfg m m.fuel) m.itemBound st =
      .ok ((l.entries.drop st.idx ++ rest.flatMap Leaf.entries).takeWhile (fun kv => ! beyondEnd cfg st kv.1)) := by
  obtain ⟨hp, hf⟩ := h.pos st hleaf hidx
  refine drain_pos cfg m cap _ _ _ _ _ hp hf (Nat.lt_of_le_of_lt (takeWhile_length_le _) ?_)
  have := h.entries_lt_itemBound
  simp only [List.flatMap_cons, List.length_append, List.length_drop] at this ⊢
  exact Nat.lt_of_le_of_lt (Nat.add_le_add_right (Nat.sub_le _ _) _) this

theorem takeWhile_noEnd (cfg : Cfg) (st : ItState K V) (h1 : st.endKey = none) (h2 : st.endBound = none) (L : List (K × V)) :
    L.takeWhile (fun kv => ! beyondEnd cfg st kv.1) = L := by
  have hfun : (fun (kv : K × V) => ! beyondEnd cfg st kv.1) = fun _ => true := by
    funext kv; simp [beyondEnd, h1, h2]
  rw [hfun]
  induction L with
  | nil => rfl
  | cons x xs ih => simp [ih]

theorem drain_chain (cfg : Cfg) (m : RawMap K V) (cap : Nat) (Ls : List (Leaf K V)) (x : Nat) (hch : RawChain m cap Ls x) :
    drain (itemNext cfg m m.fuel) m.itemBound ({ leaf := m.getLeaf x, idx := 0 } : ItState K V) = .ok (Ls.flatMap Leaf.entries) := by
  cases Ls with
  | nil =>
    cases hch
    exact drain_pos cfg m cap m.fuel m.itemBound _ [] 0 (Pos.done _ _ (Arena.get_null m.leaves)) (Nat.le_add_left _ _) (Nat.succ_pos _)
  | cons l0 rest =>
    obtain ⟨rfl, hget, _⟩ := hch.inv_cons
    rw [hch.drain_at cfg _ hget (Nat.zero_le _), takeWhile_noEnd cfg _ rfl rfl]
    rfl

theorem items_of_chain (cfg : Cfg) (m : RawMap K V) (cap : Nat) (Ls : List (Leaf K V)) (first : Option Nat)
    (hfirst : m.firstLeaf = .ok first) (hch : RawChain m cap Ls (first.getD nullId)) :
    m.items cfg = .ok (Ls.flatMap Leaf.entries) := by
  unfold RawMap.items RawMap.itemsStart
  rw [hfirst]
  simp only [Res.map_ok, Res.bind_ok]
  have hleaf : first.bind m.getLeaf = m.getLeaf (first.getD nullId) := by
    cases first with
    | none => exact (Arena.get_null m.leaves).symm
    | some x => rfl
  rw [hleaf]
  exact drain_chain cfg m cap Ls _ hch

theorem first_of_items {cfg : Cfg} {m : RawMap K V} {L : List (K × V)} (h : m.items cfg = .ok L) : m.first cfg = .ok L.head? := by
  obtain ⟨st, hst, hd⟩ := Res.bind_eq_ok h
  unfold RawMap.first
  rw [hst, Res.bind_ok]
  exact drain_head _ _ st L hd

end BPT.Rust
