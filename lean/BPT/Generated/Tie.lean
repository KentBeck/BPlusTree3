import BPT.Generated.Source
import BPT.Arena.Model
import BPT.Rust.Policy
import BPT.Rust.Raw
/-
  Tie lemmas: what tools/extract.py regenerated from /repo's sources equals what
  the hand-written models use.  If a threshold, constant or guard changes in the
  code, `Source.lean` changes and one of these stops checking.
-/
namespace BPT.Tie
open BPT BPT.Generated

theorem rust_null_node : rust_NULL_NODE = nullId := rfl
theorem rust_null_node_arena : rust_NULL_NODE_arena = nullId := rfl
theorem rust_nodeid_bits : rust_NodeId_bits = 32 ∧ nullId = 2 ^ 32 - 1 := by decide
theorem rust_min_capacity : rust_MIN_CAPACITY = Rust.minCapacity := rfl
theorem rust_default_capacity : rust_DEFAULT_CAPACITY = Rust.defaultCapacity := rfl

/-! ### CompactArena::allocate refuses to issue the null handle (C16, D5) -/
theorem rust_arena_alloc_limit_eq : rust_arena_alloc_limit = nullId := rfl

/-! ### constructors (C10) -/
theorem rust_new_rejects_iff (c : Nat) : rust_new_rejects c = decide (c < Rust.minCapacity) := rfl
theorem rust_empty_rejects_iff (c : Nat) : rust_empty_rejects c = decide (c < Rust.minCapacity) := rfl

/-! ### occupancy policy (C01, C04) -/
theorem rust_leaf_min_keys_eq (cap : Nat) : rust_leaf_min_keys cap = Rust.minKeys cap := rfl
theorem rust_branch_min_keys_eq (cap : Nat) : rust_branch_min_keys cap = Rust.minKeys cap := rfl
theorem rust_leaf_is_full_eq (cap n : Nat) : rust_leaf_is_full cap n = Rust.isFull cap n := rfl
theorem rust_branch_is_full_eq (cap n : Nat) : rust_branch_is_full cap n = Rust.isFull cap n := rfl
theorem rust_leaf_is_underfull_eq (cap n : Nat) : rust_leaf_is_underfull cap n = Rust.isUnderfull cap n := rfl
theorem rust_branch_is_underfull_eq (cap n : Nat) : rust_branch_is_underfull cap n = Rust.isUnderfull cap n := rfl
theorem rust_leaf_can_donate_eq (cap n : Nat) : rust_leaf_can_donate cap n = Rust.canDonate cap n := rfl
theorem rust_branch_can_donate_eq (cap n : Nat) : rust_branch_can_donate cap n = Rust.canDonate cap n := rfl
-- `div_ceil(2)` comes out as `(n + 2 - 1) / 2`, which reduces to `(n + 1) / 2`
theorem rust_leaf_split_mid_node_eq (cap n : Nat) : rust_leaf_split_mid_node cap n = Rust.leafSplitMid cap n := rfl
theorem rust_leaf_split_mid_insert_eq (cap n : Nat) : rust_leaf_split_mid_insert cap n = Rust.leafSplitMid cap n := rfl
theorem rust_leaf_insert_goes_left_eq (i mid : Nat) : rust_leaf_insert_goes_left i mid = Rust.goesLeft i mid := rfl
theorem rust_branch_split_mid_eq (cap : Nat) : rust_branch_split_mid cap = Rust.branchSplitMid cap := rfl
/-- the four inlined sibling tests of `rebalance_child` are `len > min_keys` -/
theorem rust_rebalance_tests :
    rust_rebalance_can_donate_tests =
      ["(n > (rust_leaf_min_keys cap))", "(n > (rust_branch_min_keys cap))",
       "(n > (rust_leaf_min_keys cap))", "(n > (rust_branch_min_keys cap))"] := rfl


/-! ### the checked / bulk wrappers (C10, C14): the source text `BPT/Rust/Checked.lean` transcribes -/
/-- model: `Rust.tryInsert` -/
theorem rust_src_try_insert_eq : rust_src_try_insert =
    "if let Err(e) = self.check_invariants_detailed() { return Err(BPlusTreeError::DataIntegrityError(e)); } let old_value = self.insert(key, value); if let Err(e) = self.check_invariants_detailed() { return Err(BPlusTreeError::DataIntegrityError(e)); } Ok(old_value)" := rfl
/-- model: `Rust.tryRemove` -/
theorem rust_src_try_remove_eq : rust_src_try_remove =
    "if let Err(e) = self.check_invariants_detailed() { return Err(BPlusTreeError::DataIntegrityError(e)); } let value = self.remove(key).ok_or(BPlusTreeError::KeyNotFound)?; if let Err(e) = self.check_invariants_detailed() { return Err(BPlusTreeError::DataIntegrityError(e)); } Ok(value)" := rfl
/-- model: `Rust.batchInsert / batchInsertLoop / rollback` -/
theorem rust_src_batch_insert_eq : rust_src_batch_insert =
    "let mut results = Vec::new(); let mut inserted_keys = Vec::new(); for (key, value) in items { match self.try_insert(key.clone(), value) { Ok(old_value) => { results.push(old_value); inserted_keys.push(key); } Err(e) => { for rollback_key in inserted_keys { self.remove(&rollback_key); } return Err(e); } } } Ok(results)" := rfl
/-- model: `Rust.tryGet` -/
theorem rust_src_get_item_eq : rust_src_get_item =
    "self.get(key).ok_or(BPlusTreeError::KeyNotFound)" := rfl
/-- model: `Rust.tryGet` -/
theorem rust_src_try_get_eq : rust_src_try_get =
    "self.get(key).ok_or(BPlusTreeError::KeyNotFound)" := rfl
/-- model: `Rust.getManyE` -/
theorem rust_src_get_many_eq : rust_src_get_many =
    "let mut values = Vec::new(); for key in keys.iter() { match self.get(key) { Some(value) => values.push(value), None => { return Err(BPlusTreeError::KeyNotFound); } } } Ok(values)" := rfl
/-- model: `(get s k).isSome` in `C01.step .containsKey` -/
theorem rust_src_contains_key_eq : rust_src_contains_key =
    "self.get(key).is_some()" := rfl
/-- model: `match get s k with | some p => p.2 | none => d` in `C01.step .getOrDefault` -/
theorem rust_src_get_or_default_eq : rust_src_get_or_default =
    "self.get(key).unwrap_or(default)" := rfl
/-- model: `Rust.removeItem` -/
theorem rust_src_remove_item_eq : rust_src_remove_item =
    "self.remove(key).ok_or(BPlusTreeError::KeyNotFound)" := rfl
/-- model: `Rust.validateForOperation` -/
theorem rust_src_validate_eq : rust_src_validate =
    "self.check_invariants_detailed()" := rfl
/-- model: `Rust.validateForOperation` -/
theorem rust_src_validate_for_operation_eq : rust_src_validate_for_operation =
    "self.check_invariants_detailed().map_err(|e| { BPlusTreeError::data_integrity( operation, &format!('Validation for {}: {}', operation, e), ) })" := rfl

/-! ### the repaired-defect switches of the reader model (`Cfg.repaired`) are what the code does now -/
theorem rust_range_skip_only_matched : rust_range_skip_only_matched = Rust.Cfg.repaired.skipOnlyMatched := rfl
theorem rust_end_key_honours_inclusive : rust_end_key_honours_inclusive = Rust.Cfg.repaired.honourEndIncl := rfl
theorem rust_iter_guard_both : rust_iter_guard_both = Rust.Cfg.repaired.guardBoth := rfl
theorem rust_validator_checks_empty : rust_validator_checks_empty = Rust.Cfg.repaired.validatorChecksEmpty := rfl
/-- FastItemIterator follows leaf ids through the checked lookup: no `get_leaf_unchecked` call site is left -/
theorem rust_fast_checked : rust_leaf_unchecked_followers = [] ∧ Rust.Cfg.repaired.fastChecked = true := ⟨rfl, rfl⟩

/-! ### inventories (C02, C05, C11, C15) -/
theorem no_interior_mutability : rust_interior_mutability = [] := rfl
theorem no_manual_ownership : rust_manual_ownership = [] := rfl

/-- Every `unsafe` token of the crate: the accessor definitions themselves and one
    use site — `ItemIterator::try_get_next_item`, behind a guard on both vectors. -/
theorem unsafe_sites_catalogue :
    rust_unsafe_sites =
      ["compact_arena.rs: unsafe fn get_unchecked",
       "compact_arena.rs: unsafe fn get_unchecked_mut",
       "compact_arena.rs: unsafe fn get_leaf_unchecked",
       "compact_arena.rs: unsafe fn get_branch_unchecked",
       "iteration.rs: try_get_next_item: unsafe block",
       "node.rs: unsafe fn get_key_unchecked",
       "node.rs: unsafe fn get_value_unchecked",
       "node.rs: unsafe fn get_key_value_unchecked"] := rfl

/-- Every *call* of an unchecked accessor: the wrappers' own bodies and the one
    modelled site P1 (`get_key_value_unchecked` in `try_get_next_item`). -/
theorem unchecked_calls_catalogue :
    rust_unchecked_calls =
      ["compact_arena.rs: get_unchecked: get_unchecked",
       "compact_arena.rs: get_unchecked_mut: get_unchecked_mut",
       "compact_arena.rs: get_leaf_unchecked: get_unchecked",
       "compact_arena.rs: get_branch_unchecked: get_unchecked",
       "iteration.rs: try_get_next_item: get_key_value_unchecked",
       "node.rs: get_key_unchecked: get_unchecked",
       "node.rs: get_value_unchecked: get_unchecked",
       "node.rs: get_key_value_unchecked: get_unchecked",
       "node.rs: get_key_value_unchecked: get_unchecked"] := rfl

end BPT.Tie
