import BPT.Core.Glue
/-
  Borrow and merge, implementation-independent: two adjacent ordered nodes are glued (with the separator
  between them, for branches) and cut again elsewhere, into any two nodes `x', y'` that hold the glued contents
  in the same order; which entry an implementation moves is one list equation at the call.
-/
namespace BPT
variable {K V : Type} [Keyed K]
open Tree

theorem Cut.glue_leaf {x y : Leaf K V} {lo hi : Option Int} {s : K} (hxy : Cut 0 lo hi (x : Tree K V 0) s y) (id n : Nat) :
    Ordered 0 (({ id := id, keys := x.keys ++ y.keys, vals := x.vals ++ y.vals, next := n } : Leaf K V) : Tree K V 0) lo hi :=
  leaf_glue x.keys y.keys x.vals y.vals lo hi (ord s) x.id y.id id x.next y.next n hxy.left hxy.right
    (fun _ => hxy.inB.lo_le) (fun _ hu => Int.le_of_lt (hxy.inB.lt_hi hu))

theorem leaf_recut (x y x' y' : Leaf K V) (lo hi : Option Int) (s sep : K) (hxy : Cut 0 lo hi (x : Tree K V 0) s y)
    (hk : x'.keys ++ y'.keys = x.keys ++ y.keys) (hv : x'.vals ++ y'.vals = x.vals ++ y.vals)
    (hl : x'.keys.length = x'.vals.length) (hsep : y'.keys.head? = some sep) :
    Cut 0 lo hi (x' : Tree K V 0) sep y' ∧
      toList 0 (x' : Tree K V 0) ++ toList 0 (y' : Tree K V 0) = toList 0 (x : Tree K V 0) ++ toList 0 (y : Tree K V 0) := by
  have hg := hxy.glue_leaf 0 0
  rw [← hk, ← hv] at hg
  obtain ⟨h1, h2, h3⟩ := Rust.leaf_cut_spec (x'.keys ++ y'.keys) (x'.vals ++ y'.vals) x'.keys.length lo hi sep hg.leaf_sorted hg.leaf_lens hg.leaf_inB
    (by simp [hsep]) x'.id y'.id x'.next y'.next
  -- cut at `x'.keys.length`, the glued keys fall into `x'.keys` and `y'.keys` again, and so do the values (`hl`)
  rw [List.take_left' rfl, List.take_left' hl.symm] at h1
  rw [List.drop_left' rfl, List.drop_left' hl.symm] at h2
  refine ⟨⟨h1, h2, h3⟩, ?_⟩
  simp only [toList_zero, Leaf.entries]
  rw [← List.zip_append hl, ← List.zip_append hxy.left.leaf_lens, hk, hv]

theorem leaf_merge (x y : Leaf K V) {lo hi : Option Int} (s : K) (n : Nat) (hxy : Cut 0 lo hi (x : Tree K V 0) s y) :
    Ordered 0 (({ x with keys := x.keys ++ y.keys, vals := x.vals ++ y.vals, next := n } : Leaf K V) : Tree K V 0) lo hi ∧
      toList 0 (({ x with keys := x.keys ++ y.keys, vals := x.vals ++ y.vals, next := n } : Leaf K V) : Tree K V 0) =
        toList 0 (x : Tree K V 0) ++ toList 0 (y : Tree K V 0) :=
  ⟨hxy.glue_leaf x.id n,
    by simp only [toList_zero, Leaf.entries]; exact List.zip_append hxy.left.leaf_lens⟩

theorem keys_above_lo (h : Nat) (c : Branch K (Tree K V h)) (s : Int) (hi : Option Int)
    (hc : Ordered (h+1) c (some s) hi) (hch : ∀ x ∈ c.children, 1 ≤ nkeys h x) : ∀ x ∈ c.keys, s < ord x := by
  intro x hx
  obtain ⟨c0, hc0⟩ := exists_getElem? (show 0 < c.children.length by rw [hc.arity]; exact Nat.succ_pos _)
  obtain ⟨k0, hk0⟩ := exists_getElem? (List.length_pos_of_mem hx)
  -- the first child holds a key, so the first separator is above `s`; the others are above the first
  have ho := hc.child hc0
  rw [loAt_zero, hiAt_eq_some c.keys hi 0 _ hk0] at ho
  have hlt := bounds_strict h c0 s _ ho (hch c0 (List.mem_of_getElem? hc0))
  obtain ⟨n, hn⟩ := List.getElem?_of_mem hx
  exact Int.lt_of_lt_of_le hlt (hc.sorted.getElem?_le hk0 hn (Nat.zero_le n))

/-- `hch`: `hxy.right` bounds the keys of `y` only weakly from below -/
theorem Cut.glue_branch {h : Nat} {x y : Branch K (Tree K V h)} {lo hi : Option Int} {sep : K} (hxy : Cut (h+1) lo hi x sep y)
    (hch : ∀ c ∈ y.children, 1 ≤ nkeys h c) (id : Nat) :
    Ordered (h+1) ({ id := id, keys := x.keys ++ sep :: y.keys, children := x.children ++ y.children } : Branch K (Tree K V h)) lo hi :=
  branch_glue h x.keys y.keys x.children y.children lo hi sep x.id y.id id hxy.left hxy.right hxy.inB
    (keys_above_lo h y _ hi hxy.right hch)

theorem branch_recut (h : Nat) (x y : Branch K (Tree K V h)) {x' y' : Branch K (Tree K V h)} (lo hi : Option Int) (sep sep' : K)
    (hxy : Cut (h+1) lo hi x sep y) (hch : ∀ c ∈ y.children, 1 ≤ nkeys h c)
    (hk : x'.keys ++ sep' :: y'.keys = x.keys ++ sep :: y.keys) (hc : x'.children ++ y'.children = x.children ++ y.children)
    (hl : x'.children.length = x'.keys.length + 1) :
    Cut (h+1) lo hi x' sep' y' ∧ toList (h+1) x' ++ toList (h+1) y' = toList (h+1) x ++ toList (h+1) y := by
  have hg := hxy.glue_branch hch 0
  rw [← hk, ← hc] at hg
  obtain ⟨h1, h2, h3, _⟩ := (ordered_glue_iff h x'.keys y'.keys x'.children y'.children lo hi sep' x'.id y'.id 0 hl).1 hg
  refine ⟨⟨h1, h2, h3⟩, ?_⟩
  simp only [toList_succ, ← List.flatMap_append, hc]

theorem branch_merge (h : Nat) (x y : Branch K (Tree K V h)) {lo hi : Option Int} (sep : K)
    (hxy : Cut (h+1) lo hi x sep y) (hch : ∀ c ∈ y.children, 1 ≤ nkeys h c) :
    Ordered (h+1) ({ x with keys := x.keys ++ sep :: y.keys, children := x.children ++ y.children } : Branch K (Tree K V h)) lo hi ∧
      toList (h+1) (({ x with keys := x.keys ++ sep :: y.keys, children := x.children ++ y.children } : Branch K (Tree K V h)) : Tree K V (h+1)) =
        toList (h+1) x ++ toList (h+1) y :=
  ⟨hxy.glue_branch hch x.id,
    by simp only [toList_succ, List.flatMap_append]⟩

end BPT
