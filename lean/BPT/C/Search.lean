import BPT.Core.Search
/-
  Glue of the C extension that the tree model abstracts.  `node_find_position` is a hand-written binary search where the
  tree model uses `lowerBound` (a left-to-right count); on strictly ascending keys, which `CInv` gives for every node, the
  two agree.  `fast_compare_lt` / `fast_compare_eq` take a C-`long` fast path for exact ints and fall back to rich
  comparison when an operand does not fit; the exact-str branch answers by the sign `PyUnicode_Compare` returned (a
  genuine −1 is not mistaken for a failure) and defers to rich comparison only when an error is set.
-/
namespace BPT.C
open BPT
variable {K : Type} [Keyed K]

/-- the loop of `node_find_position`: `left`, `right` as in the source, fuel = iterations left -/
def findPositionLoop (lt : K → K → Bool) (ks : List K) (k : K) : Nat → Nat → Nat → Nat
  | 0, left, _ => left
  | f+1, left, right =>
    if left < right then
      let mid := (left + right) / 2
      match ks[mid]? with
      | some mk => if lt mk k then findPositionLoop lt ks k f (mid + 1) right else findPositionLoop lt ks k f left mid
      | none => left            -- not reachable: mid < right ≤ num_keys
    else left

/-- `node_find_position(node, key)` over the node's keys -/
def nodeFindPosition (lt : K → K → Bool) (ks : List K) (k : K) : Nat :=
  findPositionLoop lt ks k (ks.length + 1) 0 ks.length

omit [Keyed K] in
/-- `lt` is a variable: the C loop compares through `fast_compare_lt`, whose int and str paths are modelled below -/
theorem findPositionLoop_eq (lt : K → K → Bool) (ks : List K) (k : K) (n : Nat)
    (hn : ∀ i x, ks[i]? = some x → (lt x k = true ↔ i < n)) :
    ∀ (f left right : Nat), left ≤ n → n ≤ right → right ≤ ks.length → right - left < f →
      findPositionLoop lt ks k f left right = n := by
  intro f
  induction f with
  | zero => intro left right _ _ _ hf; exact absurd hf (Nat.not_lt_zero _)
  | succ f ih =>
    intro left right hl hr hrl hf
    unfold findPositionLoop
    by_cases hc : left < right
    · -- the midpoint lies in `[left, right)`; nothing else about it is used
      have hm : left ≤ (left + right) / 2 ∧ (left + right) / 2 < right := by clear hn ih hl hr hrl hf; omega
      generalize (left + right) / 2 = m at hm
      obtain ⟨mk, hmk⟩ := exists_getElem? (Nat.lt_of_lt_of_le hm.2 hrl)
      rw [if_pos hc]
      simp only [hmk]
      by_cases hb : lt mk k = true
      · rw [if_pos hb]; exact ih _ _ ((hn _ _ hmk).1 hb) hr hrl (by omega)
      · rw [if_neg hb]; exact ih _ _ hl (Nat.le_of_not_lt fun h => hb ((hn _ _ hmk).2 h)) (Nat.le_trans (Nat.le_of_lt hm.2) hrl) (by omega)
    · rw [if_neg hc]; omega

theorem nodeFindPosition_eq (lt : K → K → Bool) (hlt : ∀ a b, lt a b = decide (ord a < ord b)) (ks : List K) (k : K) (hs : KSorted ks) :
    nodeFindPosition lt ks k = lowerBound ks k := by
  refine findPositionLoop_eq lt ks k _ (fun i x hx => ?_) _ 0 ks.length (Nat.zero_le _) (lowerBound_le ks k) (Nat.le_refl _) (Nat.lt_succ_self _)
  rw [hlt, decide_eq_true_iff, lt_lowerBound_iff ks k hs hx]

/-- `PyLong_AsLong`: the value if it fits a 64-bit C `long`, otherwise OverflowError is set (`none`) -/
def asLong (n : Int) : Option Int := if -9223372036854775808 ≤ n ∧ n ≤ 9223372036854775807 then some n else none

/-- the int branch of `fast_compare_lt`: both conversions, then `!PyErr_Occurred()`; otherwise clear the error and fall
    through to `PyObject_RichCompareBool(a, b, Py_LT)` -/
def fastLtInt (a b : Int) : Bool :=
  match asLong a, asLong b with
  | some x, some y => decide (x < y)
  | _, _ => decide (a < b)

def fastEqInt (a b : Int) : Bool :=
  match asLong a, asLong b with
  | some x, some y => decide (x = y)
  | _, _ => decide (a = b)

theorem asLong_some (n x : Int) (h : asLong n = some x) : x = n := by
  unfold asLong at h
  split at h
  · cases h; rfl
  · cases h

/-- a conversion that succeeds returns its operand -/
theorem fastInt_eq (r : Int → Int → Bool) (a b : Int) :
    (match asLong a, asLong b with | some x, some y => r x y | _, _ => r a b) = r a b := by
  cases ha : asLong a with
  | none => rfl
  | some x =>
    cases hb : asLong b with
    | none => rfl
    | some y => simp only []; rw [asLong_some a x ha, asLong_some b y hb]

theorem fastLtInt_eq (a b : Int) : fastLtInt a b = decide (a < b) := fastInt_eq (fun x y => decide (x < y)) a b

theorem fastEqInt_eq (a b : Int) : fastEqInt a b = decide (a = b) := fastInt_eq (fun x y => decide (x = y)) a b

/-- the str branch of `fast_compare_lt`: `result = PyUnicode_Compare(a, b)` (−1, 0 or 1; −1 *with* an error set on failure);
    `if (result != -1 || !PyErr_Occurred()) return result < 0`; otherwise clear the error and fall through -/
def fastLtStr (result : Int) (errSet : Bool) (fallback : Bool) : Bool :=
  if result ≠ -1 ∨ errSet = false then decide (result < 0) else fallback

def fastEqStr (result : Int) (errSet : Bool) (fallback : Bool) : Bool :=
  if result ≠ -1 ∨ errSet = false then decide (result = 0) else fallback

theorem fastLtStr_spec (result : Int) (fallback : Bool) :
    fastLtStr result false fallback = decide (result < 0) ∧ fastEqStr result false fallback = decide (result = 0) ∧
    fastLtStr (-1) true fallback = fallback ∧ fastEqStr (-1) true fallback = fallback := by
  refine ⟨by simp [fastLtStr], by simp [fastEqStr], by simp [fastLtStr], by simp [fastEqStr]⟩

/-- both regimes occur: a small and a huge operand -/
example : asLong 5 = some 5 ∧ asLong (2 ^ 64) = none ∧ fastLtInt 5 (2 ^ 64) = true ∧ fastLtInt (2 ^ 64) 5 = false ∧
    fastLtInt (-1) (2 ^ 64) = true := by decide +kernel

end BPT.C
