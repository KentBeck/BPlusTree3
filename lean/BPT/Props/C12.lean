import BPT.C.Wrapper
import BPT.C.Search
/-
  C12 — the C extension mapping behaves like dict; iterators fail fast on mutation.

  Specification: the sorted association list `abs s`.  The C tree has no lower occupancy bound (deletions never
  rebalance, leaves may be empty); the invariant is `CInv`.  For every capacity in [4, 2^16) and every finite history
  the mapping protocol and the wrapper's methods answer what the specification answers, reach no error but KeyError and
  never leave the allocated geometry (`Res.ub`); a drained iterator is exactly `abs s`; the iterator raises RuntimeError
  first thing when the stamps differ, and every successful mutation increases the stamp.
  The binary search and the exact-int / exact-str fast paths are modelled in `C/Search.lean` (last section), relative to
  what `PyLong_AsLong` / `PyUnicode_Compare` return.  Partial, and said so: rich comparison and argument parsing are glue
  covered by the correspondence run with four key representations (exact int, exact str, a class with rich comparison,
  ints beyond C `long`).
-/
namespace BPT.Props.C12
open BPT BPT.C Tree

variable {K V : Type} [Keyed K]

/-- the mapping protocol of the C type plus the wrapper methods that do not iterate -/
inductive Op (K V : Type) where
  | set (k : K) (v : V)
  | del (k : K)
  | get (k : K)
  | contains (k : K)
  | len
  | wget (k : K) (d : V)
  | wpop (k : K) (d : Option V)
  | wsetdefault (k : K) (d : V)
  | wupdate (its : List (K × V))
  | items                                   -- `list(t.items())`; keys() / values() are its projections
  | wpopitem
  | wcopy                                   -- the history continues on the copy
  | wclear

inductive Out (K V : Type) where
  | unit
  | keyError
  | val (v : V)
  | bool (b : Bool)
  | nat (n : Nat)
  | item (k : K) (v : V)
  | list (l : List (K × V))

def step (s : CState K V) : Op K V → Res (CState K V × Out K V)
  | .set k v => (setitem Cfg.repaired s k v).map fun r => (r.1, .unit)
  | .del k => (delitem s k).map fun r => match r with | some (s', _) => (s', .unit) | none => (s, .keyError)
  | .get k => (getitem s k).map fun r => (s, match r.1 with | some v => .val v | none => .keyError)
  | .contains k => (contains s k).map fun r => (s, .bool r.1)
  | .len => .ok (s, .nat (len s))
  | .wget k d => (wget s k d).map fun v => (s, .val v)
  | .wpop k d => (wpop s k d).map fun r => (r.1, match r.2 with | some v => .val v | none => .keyError)
  | .wsetdefault k d => (wsetdefault Cfg.repaired s k d).map fun r => (r.1, .val r.2)
  | .wupdate its => (wupdate Cfg.repaired s its).map fun s' => (s', .unit)
  | .items => (items s).map fun l => (s, .list l)
  | .wpopitem => (wpopitem s).map fun r => (r.1, match r.2 with | some (k, v) => .item k v | none => .keyError)
  | .wcopy => (wcopy Cfg.repaired s).map fun s' => (s', .unit)
  | .wclear => (wclear (s.size + 1) s).map fun s' => (s', .unit)      -- fuel: one round per entry and one to see `len = 0`

def specStep (m : List (K × V)) : Op K V → List (K × V) × Out K V
  | .set k v => (SMap.insert m k v, .unit)
  | .del k => (SMap.erase m k, if (SMap.lookup m k).isSome then .unit else .keyError)
  | .get k => (m, match SMap.lookup m k with | some p => .val p.2 | none => .keyError)
  | .contains k => (m, .bool (SMap.lookup m k).isSome)
  | .len => (m, .nat m.length)
  | .wget k d => (m, .val (match SMap.lookup m k with | some p => p.2 | none => d))
  | .wpop k d =>
    match SMap.lookup m k with
    | some p => (SMap.erase m k, .val p.2)
    | none => (m, match d with | some d => .val d | none => .keyError)
  | .wsetdefault k d =>
    match SMap.lookup m k with
    | some p => (m, .val p.2)
    | none => (SMap.insert m k d, .val d)
  | .wupdate its => (its.foldl (fun m kv => SMap.insert m kv.1 kv.2) m, .unit)
  | .items => (m, .list m)
  | .wpopitem => (match m with | [] => ([], .keyError) | p :: rest => (rest, .item p.1 p.2))
  | .wcopy => (m, .unit)
  | .wclear => ([], .unit)

theorem wupdate_spec (its : List (K × V)) : ∀ (s : CState K V), CInv s →
    ∃ s', wupdate Cfg.repaired s its = .ok s' ∧ CInv s' ∧ abs s' = its.foldl (fun m kv => SMap.insert m kv.1 kv.2) (abs s) ∧ s'.cap = s.cap :=
  C.wupdate_spec Cfg.repaired its

theorem step_refines (s : CState K V) (op : Op K V) (hi : CInv s) :
    ∃ s', step s op = .ok (s', (specStep (abs s) op).2) ∧ CInv s' ∧ abs s' = (specStep (abs s) op).1 := by
  cases op with
  | set k v =>
    obtain ⟨s', ev, he, h1, h2, h3, _⟩ := setitem_spec Cfg.repaired s k v hi
    exact ⟨s', by simp [step, he, specStep], h1, h2⟩
  | del k =>
    obtain ⟨r, he, hr⟩ := delitem_spec s k hi
    cases r with
    | none =>
      refine ⟨s, ?_, hi, ?_⟩
      · simp [step, he, specStep, hr]
      · simp only [specStep]; exact (SMap.erase_of_lookup_none k hr).symm
    | some p =>
      obtain ⟨s', ev⟩ := p
      obtain ⟨h1, h2, h3, h4, _⟩ := hr
      exact ⟨s', by simp [step, he, specStep, h3], h1, h2⟩
  | get k =>
    obtain ⟨ev, he⟩ := getitem_spec s k hi
    refine ⟨s, ?_, hi, rfl⟩
    simp only [step, he, Res.map_ok, specStep]
    cases SMap.lookup (abs s) k <;> rfl
  | contains k =>
    obtain ⟨ev, he⟩ := contains_spec s k hi
    exact ⟨s, by simp [step, he, specStep], hi, rfl⟩
  | len => exact ⟨s, by simp [step, specStep, len_spec s hi], hi, rfl⟩
  | wget k d =>
    obtain ⟨ev, he⟩ := getitem_spec s k hi
    refine ⟨s, ?_, hi, rfl⟩
    simp only [step, wget, he, Res.map_ok, specStep]
    cases SMap.lookup (abs s) k <;> rfl
  | wpop k d =>
    obtain ⟨ev, he⟩ := getitem_spec s k hi
    simp only [step, wpop, he, Res.bind_ok, specStep]
    cases hl : SMap.lookup (abs s) k with
    | none =>
      refine ⟨s, ?_, hi, rfl⟩
      simp only [Option.map_none, Res.map_ok]
    | some p =>
      obtain ⟨s', ev', hd, h1, h2, _⟩ := delitem_present s k hi (by rw [hl]; rfl)
      exact ⟨s', by simp [hd], h1, h2⟩
  | wsetdefault k d =>
    obtain ⟨ev, he⟩ := getitem_spec s k hi
    simp only [step, wsetdefault, he, Res.bind_ok, specStep]
    cases hl : SMap.lookup (abs s) k with
    | some p => exact ⟨s, by simp, hi, rfl⟩
    | none =>
      obtain ⟨s', ev', hs, h1, h2, h3, _⟩ := setitem_spec Cfg.repaired s k d hi
      exact ⟨s', by simp [hs], h1, h2⟩
  | wupdate its =>
    obtain ⟨s', he, h1, h2, h3⟩ := wupdate_spec its s hi
    exact ⟨s', by simp [step, he, specStep], h1, h2⟩
  | items => exact ⟨s, by simp [step, items_spec s hi, specStep], hi, rfl⟩
  | wpopitem =>
    have := wpopitem_spec s hi
    simp only [step, specStep]
    cases hm : abs s with
    | nil =>
      rw [hm] at this
      exact ⟨s, by simp [this], hi, hm⟩
    | cons p rest =>
      rw [hm] at this
      obtain ⟨s', he, h1, h2, _⟩ := this
      exact ⟨s', by simp [he], h1, h2⟩
  | wcopy =>
    obtain ⟨s', he, h1, h2, _⟩ := wcopy_spec s hi
    exact ⟨s', by simp [step, he, specStep], h1, h2⟩
  | wclear =>
    obtain ⟨s', he, h1, h2, _⟩ := wclear_spec s.size s hi rfl
    exact ⟨s', by simp [step, he, specStep], h1, h2⟩

def run : CState K V → List (Op K V) → Res (CState K V × List (Out K V))
  | s, [] => .ok (s, [])
  | s, op :: ops => (step s op).bind fun r => (run r.1 ops).map fun q => (q.1, r.2 :: q.2)

def specRun : List (K × V) → List (Op K V) → List (K × V) × List (Out K V)
  | m, [] => (m, [])
  | m, op :: ops => ((specRun (specStep m op).1 ops).1, (specStep m op).2 :: (specRun (specStep m op).1 ops).2)

theorem run_refines (ops : List (Op K V)) : ∀ (s : CState K V), CInv s →
    ∃ s', run s ops = .ok (s', (specRun (abs s) ops).2) ∧ CInv s' ∧ abs s' = (specRun (abs s) ops).1 := by
  induction ops with
  | nil => intro s hi; exact ⟨s, rfl, hi, rfl⟩
  | cons op ops ih =>
    intro s hi
    obtain ⟨s1, he, hi1, ha1⟩ := step_refines s op hi
    obtain ⟨s', h1, h2, h3⟩ := ih s1 hi1
    refine ⟨s', ?_, h2, ?_⟩
    · simp only [run, he, Res.bind_ok, h1, Res.map_ok, specRun, ha1]
    · simp only [specRun]; rw [← ha1]; exact h3

/-- C12, mapping part: every history from `BPlusTree(capacity=c)` answers like the reference -/
theorem refines_dict (c : Nat) (h4 : 4 ≤ c) (h16 : c < 2 ^ capacityBits) (ops : List (Op K V)) :
    ∃ s0 s', (new Cfg.repaired c : Option (CState K V)) = some s0 ∧
      run s0 ops = .ok (s', (specRun [] ops).2) ∧ CInv s' ∧ abs s' = (specRun [] ops).1 := by
  obtain ⟨s0, h0, hinv0, habs0, _, _⟩ := cinv_new (K := K) (V := V) Cfg.repaired c h4 h16
  obtain ⟨s', h1, h2, h3⟩ := run_refines ops s0 hinv0
  rw [habs0] at h1 h3
  exact ⟨s0, s', h0, h1, h2, h3⟩

/-- iteration: `list(t.items())` is the contents in ascending key order, each entry once -/
theorem items_sorted_complete (s : CState K V) (hi : CInv s) : items s = .ok (abs s) ∧ SMap.Sorted (abs s) :=
  ⟨items_spec s hi, toList_sorted s.height s.root none none hi.ord⟩

/-- each `next()` over an unmodified tree yields the next entry or reports exhaustion; an exhausted iterator stays so -/
theorem next_yields_head (s : CState K V) (hi : CInv s) (it : Iter) (R : List (K × V)) (hp : Pos s it R) :
    ∃ it', iterNext s it = .ok (it', outOf it.withValues R) ∧ Pos s it' R.tail :=
  let ⟨it', h1, h2, _⟩ := iterNext_pos s (walk_of_cinv s hi) it R hp
  ⟨it', h1, h2⟩

/-- fail fast: on a stamp mismatch RuntimeError is raised before any node is looked at -/
theorem iterator_fail_fast (s : CState K V) (it : Iter) (h : it.modc ≠ s.modc) :
    iterNext s it = .ok (it, .runtimeError) := by
  simp [iterNext, h]

/-- every successful `__setitem__` and `__delitem__` strictly increases `modification_count` -/
theorem mutation_bumps_stamp (s : CState K V) (hi : CInv s) :
    (∀ k v s' ev, setitem Cfg.repaired s k v = .ok (s', ev) → s.modc < s'.modc) ∧
    (∀ k s' ev, delitem s k = .ok (some (s', ev)) → s.modc < s'.modc) := by
  constructor
  · intro k v s' ev he
    obtain ⟨s1, ev1, he1, _, _, _, hm⟩ := setitem_spec Cfg.repaired s k v hi
    rw [he] at he1; cases he1; exact hm
  · intro k s' ev he
    obtain ⟨r, he1, hr⟩ := delitem_spec s k hi
    rw [he] at he1
    cases he1
    obtain ⟨_, _, _, _, hm⟩ := hr
    exact hm

/-- an iterator created before a successful mutation fails fast afterwards -/
theorem iterator_stale_after_set (s : CState K V) (hi : CInv s) (b : Bool) (k : K) (v : V) (s' : CState K V) (ev : Evs K V)
    (he : setitem Cfg.repaired s k v = .ok (s', ev)) :
    iterNext s' (iterNew s b) = .ok (iterNew s b, .runtimeError) := by
  apply iterator_fail_fast
  have := (mutation_bumps_stamp s hi).1 k v s' ev he
  show s.modc ≠ s'.modc
  omega

/-- likewise after a successful deletion -/
theorem iterator_stale_after_del (s : CState K V) (hi : CInv s) (b : Bool) (k : K) (s' : CState K V) (ev : Evs K V)
    (he : delitem s k = .ok (some (s', ev))) :
    iterNext s' (iterNew s b) = .ok (iterNew s b, .runtimeError) := by
  apply iterator_fail_fast
  have := (mutation_bumps_stamp s hi).2 k s' ev he
  show s.modc ≠ s'.modc
  omega

/-- non-vacuity: a history through a leaf split -/
example : ∃ s0 s', (new Cfg.repaired 4 : Option (CState Int Nat)) = some s0 ∧
    run s0 [.set 1 10, .set 2 20, .set 3 30, .set 4 40, .set 5 50, .del 2, .get 3, .len, .wpopitem, .items] =
      .ok (s', [.unit, .unit, .unit, .unit, .unit, .unit, .val 30, .nat 4, .item 1 10, .list [(3, 30), (4, 40), (5, 50)]]) := by
  obtain ⟨s0, s', h0, h1, _, _⟩ := refines_dict (K := Int) (V := Nat) 4 (by omega) (by decide)
    [.set 1 10, .set 2 20, .set 3 30, .set 4 40, .set 5 50, .del 2, .get 3, .len, .wpopitem, .items]
  refine ⟨s0, s', h0, ?_⟩
  rw [h1]; rfl

/-- `node_find_position` returns the position the tree model uses, provided its comparison is the key order -/
theorem binary_search_is_lower_bound (lt : K → K → Bool) (hlt : ∀ a b, lt a b = decide (ord a < ord b)) (ks : List K) (k : K)
    (hs : KSorted ks) : nodeFindPosition lt ks k = lowerBound ks k :=
  nodeFindPosition_eq lt hlt ks k hs

/-- the exact-int fast path is the integer order for ints of any size -/
theorem int_fast_path_is_order (a b : Int) : fastLtInt a b = decide (a < b) ∧ fastEqInt a b = decide (a = b) :=
  ⟨fastLtInt_eq a b, fastEqInt_eq a b⟩

/-- the exact-str fast path answers by the sign `PyUnicode_Compare` returned (a genuine −1 is "less", not a failure) -/
theorem str_fast_path_is_sign (result : Int) (fallback : Bool) :
    fastLtStr result false fallback = decide (result < 0) ∧ fastEqStr result false fallback = decide (result = 0) ∧
    fastLtStr (-1) true fallback = fallback ∧ fastEqStr (-1) true fallback = fallback :=
  fastLtStr_spec result fallback

end BPT.Props.C12
