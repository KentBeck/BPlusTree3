import BPT.Rust.ChainTree
import BPT.Rust.Iter
/-
  Soundness of `check_invariants_detailed` beyond the node level, for EVERY raw map with intact capacity
  fields: the walk along `next` never lists an id twice (the real loop would not return), `items()` follows
  it, and so the chain lists exactly the tree's leaves, in tree order, every allocated leaf among them.
-/
namespace BPT.Rust
open BPT RawMap
variable {K V : Type} [Keyed K]

theorem insertSorted_perm (x : Nat) : ∀ (l : List Nat), (insertSorted x l).Perm (x :: l)
  | [] => List.Perm.refl _
  | y :: ys => by
    unfold insertSorted
    by_cases h : x ≤ y
    · rw [if_pos h]
    · rw [if_neg h]
      exact ((insertSorted_perm x ys).cons y).trans (List.Perm.swap x y ys)

theorem sortNat_perm : ∀ (l : List Nat), (sortNat l).Perm l
  | [] => List.Perm.refl _
  | x :: xs => by
    show (insertSorted x (sortNat xs)).Perm (x :: xs)
    exact (insertSorted_perm x _).trans ((sortNat_perm xs).cons x)

theorem perm_of_sortNat_eq (a b : List Nat) (h : sortNat a = sortNat b) : a.Perm b :=
  (sortNat_perm a).symm.trans (h ▸ sortNat_perm b)

/-- a terminating chain walk never lists an id twice -/
theorem chainIds_nodup (m : RawMap K V) (f : Nat) (x : Option Nat) (l : List Nat) (h : m.chainIds f x = .ok l) : l.Nodup :=
  (NextWalk.of_chainIds h).nodup

/-- inverse of `leafToRaw cap`, for a stored leaf whose `cap` field is `cap` -/
def leafOfRaw (id : Nat) (l : RLeaf K V) : Leaf K V := { id := id, keys := l.keys, vals := l.vals, next := l.next }

theorem NextWalk.rawChain {m : RawMap K V} {x : Option Nat} (cap : Nat) {cids : List Nat} (h : NextWalk m x cids)
    (hall : ∀ id ∈ cids, ∃ l, m.getLeaf id = some l ∧ l.keys.length = l.vals.length ∧ l.cap = cap) :
    ∃ Ls : List (Leaf K V), Ls.map (·.id) = cids ∧ (∀ l ∈ Ls, keysOf m l.id = l.keys ∧ l.keys.length = l.vals.length) ∧
      RawChain m cap Ls (x.getD nullId) := by
  induction h with
  | done => exact ⟨[], rfl, nofun, RawChain.nil⟩
  | dangling id hg =>
    obtain ⟨_, hg', _⟩ := hall id List.mem_cons_self
    rw [hg] at hg'; cases hg'
  | step id lf rest hg _ ih =>
    obtain ⟨lf', hg', hlens, hcap⟩ := hall id List.mem_cons_self
    cases hg.symm.trans hg'
    obtain ⟨Ls, h1, h2, h3⟩ := ih fun y hy => hall y (List.mem_cons_of_mem _ hy)
    have hraw : leafToRaw cap (leafOfRaw id lf) = lf := by cases lf; cases hcap; rfl
    have hnx : (if lf.next ≠ nullId then some lf.next else none).getD nullId = lf.next := by
      by_cases hn : lf.next = nullId
      · rw [if_neg (not_not_intro hn), hn]; rfl
      · rw [if_pos hn]; rfl
    rw [hnx] at h3
    refine ⟨leafOfRaw id lf :: Ls, by rw [List.map_cons, h1]; rfl, List.forall_mem_cons.2 ⟨⟨keysOf_some m _ lf hg, hlens⟩, h2⟩, ?_⟩
    exact RawChain.cons (leafOfRaw id lf) Ls lf.next (by rw [hraw]; exact hg) hlens (Arena.get_eq_some hg).1 rfl h3

/-- chain side of `detailed_sound`: `items()` yields the entries of the leaves the walk lists, in that order.
    `l.cap = m.cap` is there for `RawChain` (one `leafToRaw cap` for all leaves); `items()` never reads `cap`. -/
theorem items_along_chain (cfg : Cfg) (m : RawMap K V) (first : Option Nat) (cids : List Nat)
    (hfirst : m.firstLeaf = .ok first) (hchain : m.chainIds m.fuel first = .ok cids)
    (hall : ∀ id ∈ cids, ∃ l, m.getLeaf id = some l ∧ l.keys.length = l.vals.length ∧ l.cap = m.cap) :
    ∃ Ls : List (Leaf K V), Ls.map (·.id) = cids ∧ (∀ l ∈ Ls, keysOf m l.id = l.keys ∧ l.keys.length = l.vals.length) ∧
      m.items cfg = .ok (Ls.flatMap Leaf.entries) := by
  obtain ⟨Ls, h1, h2, h3⟩ := (NextWalk.of_chainIds hchain).rawChain m.cap hall
  exact ⟨Ls, h1, h2, items_of_chain cfg m m.cap Ls first hfirst h3⟩

theorem keys_along_chain (cfg : Cfg) (m : RawMap K V) (first : Option Nat) (cids : List Nat)
    (hfirst : m.firstLeaf = .ok first) (hchain : m.chainIds m.fuel first = .ok cids)
    (hall : ∀ id ∈ cids, ∃ l, m.getLeaf id = some l ∧ l.keys.length = l.vals.length ∧ l.cap = m.cap) :
    m.keys cfg = .ok (cids.flatMap (keysOf m)) := by
  obtain ⟨Ls, rfl, h2, h3⟩ := items_along_chain cfg m first cids hfirst hchain hall
  rw [RawMap.keys, h3, Res.map_ok, keys_of_entries Ls fun l hl => (h2 l hl).2, List.flatMap_map]
  exact congrArg Res.ok (flatMap_congr fun l hl => (h2 l hl).1.symm)

theorem eq_of_perm_before {m : RawMap K V} {A B : List Nat} (hA : A.Pairwise (Before m)) (hB : B.Pairwise (Before m))
    (hne : ∀ a ∈ A, ∃ k, k ∈ keysOf m a) (hp : A.Perm B) : A = B := by
  refine List.Perm.eq_of_pairwise ?_ hA hB hp
  intro a b ha hb hab hba
  obtain ⟨ka, hka⟩ := hne a ha
  obtain ⟨kb, hkb⟩ := hne b (hp.symm.subset hb)
  have := hab ka hka kb hkb
  have := hba kb hkb ka hka
  omega

/-- from what the stages establish: the chain lists the tree's leaves in tree order, no allocated leaf left out -/
theorem chain_eq_tree (m : RawMap K V) (hcap : ∀ id l, m.getLeaf id = some l → l.cap = m.cap) (h2 : 2 ≤ m.cap)
    (hroot : NodeOK m m.root none none true)
    (ks : List K) (hks : m.keys Cfg.repaired = .ok ks) (hsorted : strictlySorted ks = true)
    (cnt : Nat × Nat) (hcnt : m.countNodes = .ok cnt) (hcl : cnt.1 = m.leaves.len)
    (tids cids : List Nat) (first : Option Nat) (htids : m.leafIds = .ok tids) (hfirst : m.firstLeaf = .ok first)
    (hchain : m.chainIds m.fuel first = .ok cids) (hsort : sortNat tids = sortNat cids) :
    cids = tids ∧ tids.Nodup ∧ tids.Pairwise (Before m) ∧ (∀ i, m.leaves.maskAt i = true → i ∈ tids) := by
  have hc : CapsOK m := capsOK_of_caps hcap h2
  obtain ⟨B, hw⟩ := Walk.of_leafIds htids
  have hperm := perm_of_sortNat_eq tids cids hsort
  have hok := hw.leavesOK hc hroot
  have hndc := chainIds_nodup m _ _ _ hchain
  have hndt : tids.Nodup := hperm.symm.nodup hndc
  have hallc : ∀ id ∈ cids, ∃ l, m.getLeaf id = some l ∧ l.keys.length = l.vals.length ∧ l.cap = m.cap := by
    intro id hid
    obtain ⟨l, a1, a2, _, _⟩ := hok.good id (hperm.symm.subset hid)
    exact ⟨l, a1, a2, hcap id l a1⟩
  have heq : cids = tids := by
    cases hr : m.root with
    | leaf rid =>
      -- a root leaf, the one listed leaf that may be empty (so `exists_key` would fail): one leaf on both sides
      rw [hr] at hw
      cases hw
      exact List.perm_singleton.1 hperm.symm
    | branch rid =>
      -- the sorted key sequence of `items()` orders the chain's leaves key-wise; so does the tree walk its own; two
      -- key-wise ascending permutations of non-empty leaves are equal
      have hstrict : LeavesOK m none none True tids := hok.imp_strict fun _ => Or.inr ⟨rid, hr⟩
      cases hks.symm.trans (keys_along_chain Cfg.repaired m first cids hfirst hchain hallc)
      have hpwc : cids.Pairwise (Before m) := (List.pairwise_flatMap.1 ((strictlySorted_iff _).1 hsorted)).2
      exact (eq_of_perm_before hstrict.pw hpwc (hstrict.exists_key hc) hperm).symm
  refine ⟨heq, hndt, hok.pw, ?_⟩
  have hlen : tids.length = m.leaves.len := by rw [← hcl, hw.countNodes_top hcnt]
  exact covers_allocated m.leaves tids hndt (fun i hi => by
    obtain ⟨l, a1, _⟩ := hok.good i hi
    obtain ⟨_, _, hmask, _⟩ := Arena.get_eq_some a1
    exact hmask) hlen

end BPT.Rust
