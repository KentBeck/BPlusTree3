import BPT.Py.Inv
import BPT.Rust.Moves
/-
  `_handle_underflow` of the pure-Python map, what its leaf half and its branch half share.  The model's `replace2`
  and borrows are those of Core/Surgery and of the Rust model (`*_eq`), and its merges unfold to the records of which
  `Short.leafMerge`, `Short.branchMerge` speak, so the moves of Rust/Moves apply, at the policy
  `Occ cap (minKeys cap) 1` (a branch keeps one place free).  `RebPre`, `RebPost` and the `handle*_spec` theorems
  restate the `_short` theorems of the next two files in the terms of `PSized`.
-/
namespace BPT.Py
open BPT Tree
open BPT.Rust (links links_succ links_zero ChainL firstOf)
variable {K V : Type} [Keyed K]

theorem replace2_eq {α : Type} (b : Branch K α) (i : Nat) (l r : α) (sep : K) : replace2 b i l r sep = b.replace2 i l r sep := rfl
theorem leafBorrowLeft_eq (a c : Leaf K V) : leafBorrowLeft a c = Rust.leafBorrowLeft a c := rfl
theorem branchBorrowLeft_eq {α : Type} (a c : Branch K α) (sep : K) : branchBorrowLeft a c sep = Rust.branchBorrowLeft a c sep := rfl
theorem branchBorrowRight_eq {α : Type} (c r : Branch K α) (sep : K) : branchBorrowRight c r sep = Rust.branchBorrowRight c r sep := rfl
/-- the Rust function leaves the separator optional -/
theorem leafBorrowRight_eq (c r : Leaf K V) :
    leafBorrowRight c r = (Rust.leafBorrowRight c r).bind fun p => p.2.2.map fun k => (p.1, p.2.1, k) := by
  unfold leafBorrowRight Rust.leafBorrowRight
  cases r.keys with
  | nil => rfl
  | cons k ks => cases r.vals with
    | nil => rfl
    | cons v vs => rfl

/-- the situation `_handle_underflow` is called in: child `i` is one key short, everything else is fine -/
structure RebPre (cap h : Nat) (b : Branch K (Tree K V h)) (i : Nat) (lo hi : Option Int) : Prop where
  cap4 : 4 ≤ cap
  ord : Ordered (h+1) b lo hi
  nk : 1 ≤ b.keys.length
  idx : i < b.children.length
  sz : ∀ j c, b.children[j]? = some c → PSized cap h c (if j = i then minKeys cap - 1 else minKeys cap)
  under : ∀ c, b.children[i]? = some c → BPT.nkeys h c + 1 = minKeys cap

/-- what `_handle_underflow` hands back.  `lk1`: only a merge of two leaves fuses links, and the caller above the leaf
    level needs that as an equation -/
structure RebPost (cap h : Nat) (b b2 : Branch K (Tree K V h)) (lo hi : Option Int) : Prop where
  ord : Ordered (h+1) b2 lo hi
  list : toList (h+1) b2 = toList (h+1) b
  sz : ∀ c ∈ b2.children, PSized cap h c (minKeys cap)
  k1 : b.keys.length ≤ b2.keys.length + 1
  k2 : b2.keys.length ≤ b.keys.length
  lk : PLinkRem (links (h+1) b) (links (h+1) b2)
  lk1 : 0 < h → links (h+1) b2 = links (h+1) b

theorem two_minKeys (cap : Nat) : 2 * minKeys cap + 1 ≤ cap + 0 ∨ cap = 0 := by unfold minKeys; omega
theorem two_le_minKeys (cap : Nat) (hcap : 5 ≤ cap) : 2 ≤ minKeys cap := by unfold minKeys; omega

omit [Keyed K] in
theorem psized_iff_occ (cap : Nat) : ∀ (h : Nat) (t : Tree K V h) (n : Nat), PSized cap h t n ↔ Occ cap (minKeys cap) 1 h t n
  | 0, _, _ => Iff.rfl
  | h+1, _, _ => and_congr Iff.rfl (and_congr Iff.rfl (forall₂_congr fun c _ => psized_iff_occ cap h c _))

theorem RebPre.short {cap h : Nat} {b : Branch K (Tree K V h)} {i : Nat} {lo hi : Option Int} (hp : RebPre cap h b i lo hi) :
    Short cap (minKeys cap) 1 h b i lo hi :=
  ⟨(minKeys_bounds cap hp.cap4).1, (minKeys_bounds cap hp.cap4).2, hp.ord, hp.nk, hp.idx, fun j c hc => (psized_iff_occ cap h c _).1 (hp.sz j c hc),
    fun c hc => Nat.eq_sub_of_add_eq (hp.under c hc)⟩

theorem RebPost.of_mended {cap h : Nat} {b b2 : Branch K (Tree K V h)} {lo hi : Option Int}
    (hm : Mended cap (minKeys cap) 1 h b b2 lo hi) : RebPost cap h b b2 lo hi :=
  ⟨hm.ord, hm.list, fun c hc => (psized_iff_occ cap h c _).2 (hm.sz c hc), hm.k1, hm.k2, hm.lk, hm.lk1⟩

theorem sibRight_eq {α : Type} (b : Branch K α) (i : Nat) : sibRight b i = b.children[i+1]? := sibling_right b.children i

theorem sibLeft_zero {α : Type} (b : Branch K α) : sibLeft b 0 = none := rfl
theorem sibLeft_succ {α : Type} (b : Branch K α) (j : Nat) : sibLeft b (j+1) = b.children[j]? := rfl

theorem canDonate_iff (cap n : Nat) : canDonate cap n = true ↔ minKeys cap < n := by simp [canDonate]

/-- the sibling `_merge_with_sibling` picks: the left one if there is one -/
def mergePartner (i : Nat) : Nat := if i = 0 then 1 else i - 1

theorem mergePartner_succ (j : Nat) : mergePartner (j+1) = j := rfl
theorem mergePartner_ne (i : Nat) : mergePartner i ≠ i := by unfold mergePartner; split <;> omega

end BPT.Py
