import BPT.Rust.Introspect
import BPT.Rust.ValidatorSound
import BPT.Rust.ViewArena
/-
  Completeness of the validators: on the arena view of every valid state (`SInv`, `Small`) they accept.
-/
namespace BPT.Rust
open BPT Tree
open BPT.Rust.RawMap (strictlySorted allRes sortNat)
variable {K V : Type} [Keyed K]

theorem checkNode_complete (m : RawMap K V) (cap : Nat) (hm : m.cap = cap) :
    ∀ (h : Nat) (t : Tree K V h) (f : Nat) (lo hi : Option K) (isRoot : Bool),
      Embeds m cap h t → h < f → Ordered h t (lo.map ord) (hi.map ord) →
      Sized cap h t (if isRoot then 0 else cap / 2) →
      m.checkNode Cfg.repaired f (ref h t) lo hi isRoot = .ok true := by
  -- the bounds and the root flag change from level to level: they go behind the hypotheses of `Embeds.descend`
  intro h t f lo hi isRoot he hf
  revert lo hi isRoot
  revert h f
  refine Embeds.descend (m := m) (cap := cap) ?_ ?_
  · intro l f hg lo hi isRoot ⟨hs, hl, hb⟩ hsz
    refine checkNode_leaf.2 (.leaf _ (leafToRaw cap l) lo hi isRoot hg hl hs (hm ▸ hsz.2) ?_ ?_ ?_)
    · intro hr; subst hr; exact Nat.not_lt.2 hsz.1
    · intro a ha k hk; exact (hb k hk).lo_le (by rw [ha]; rfl)
    · intro b hb' k hk; exact (hb k hk).lt_hi (by rw [hb']; rfl)
  · intro h b f hg ih lo hi isRoot ho ⟨hz1, hz2, hz3⟩
    refine checkNode_branch.2 ⟨_, hg, by rw [rawOfBranch, List.length_map, ho.arity], ho.sorted, hm ▸ hz2, ?_, ?_⟩
    · intro hr; subst hr; exact Nat.not_lt.2 hz1
    · intro i r hr
      have hr' : (b.children.map (ref h))[i]? = some r := hr
      rw [List.getElem?_map, Option.map_eq_some_iff] at hr'
      obtain ⟨c, hci, rfl⟩ := hr'
      have hmem := List.mem_of_getElem? hci
      refine ih c hmem _ _ false ?_ (hz3 c hmem)
      -- the bounds handed to the child are its `loAt` / `hiAt`
      have := ho.child hci
      unfold loAt hiAt at this
      rw [apply_ite (Option.map ord), apply_ite (Option.map ord)]
      exact this

/-- `check_invariants()` accepts every valid state -/
theorem view_checkInvariants (s : RState K V) (hs : SInv s) (hsm : Small s) :
    (view s).checkInvariants Cfg.repaired = .ok true := by
  unfold RawMap.checkInvariants
  rw [view_root]
  apply checkNode_complete (view s) s.cap (view_cap s) s.height s.root _ none none true (view_embeds s hs hsm) (fuel_ok s hs)
  · exact hs.inv.ord
  · simp only [if_true]
    exact hs.inv.sz.mono (Nat.zero_le _)

/-- `check_invariants_detailed()` / `validate()` accept every valid state -/
theorem view_checkDetailed (s : RState K V) (hs : SInv s) (hsm : Small s) :
    (view s).checkDetailed Cfg.repaired = .ok none := by
  have hsorted : SMap.Sorted (abs s) := toList_sorted s.height s.root none none hs.inv.ord
  have hks : strictlySorted ((abs s).map (·.1)) = true := (strictlySorted_iff _).2 (sorted_keys_of_sorted _ hsorted)
  obtain ⟨_, _, ha1, ha2⟩ := view_arenas s hs hsm
  have hch := view_chain s hs hsm
  have hkeys : (view s).keys Cfg.repaired = .ok ((abs s).map (·.1)) := by
    simp [RawMap.keys, view_items Cfg.repaired s hs hsm]
  exact checkDetailed_ok_iff.2 ⟨view_checkInvariants s hs hsm, ⟨_, hkeys, hks, by rw [view_len s hs hsm, List.length_map]⟩,
    ⟨_, view_countNodes s hs hsm, ha1.symm, ha2.symm⟩, _, _, _, view_leafIds s hs hsm, view_firstLeaf s hs hsm,
    hch.nextWalk.chainIds (by rw [List.length_map]; exact hch.length_lt_fuel), rfl⟩

end BPT.Rust
