import BPT.Rust.Bridge
/-
  Raw readers on a map that embeds a typed tree: the two descents end in the leaves `firstLeafOf`, `routeLeaf` end in;
  the fuel of a view outlasts them; `get`.
-/
namespace BPT.Rust
open BPT Tree
variable {K V : Type} [Keyed K]

theorem firstLeafFrom_spec (m : RawMap K V) (cap : Nat) : ∀ (h : Nat) (t : Tree K V h) (f : Nat),
    Embeds m cap h t → h < f → m.firstLeafFrom f (ref h t) = .ok ((firstLeafOf h t).map (·.id)) :=
  Embeds.descend (fun _ _ _ => rfl) fun h b f hg ih => by
    rw [ref_succ]
    unfold RawMap.firstLeafFrom
    simp only [hg, rawOfBranch, firstLeafOf]
    cases hch : b.children with
    | nil => rfl
    | cons c rest => exact ih c (by rw [hch]; exact List.mem_cons_self)

theorem findLeafFrom_spec (m : RawMap K V) (cap : Nat) (k : K) : ∀ (h : Nat) (t : Tree K V h) (f : Nat),
    Embeds m cap h t → h < f →
    m.findLeafFrom k f (ref h t) = .ok ((routeLeaf h t k).map (fun l =>
      (l.id, lowerBound l.keys k, (match l.keys[lowerBound l.keys k]? with | some k' => decide (ord k' = ord k) | none => false)))) :=
  Embeds.descend
    (fun l f hg => by
      rw [ref_zero]
      unfold RawMap.findLeafFrom
      simp only [hg, leafToRaw, routeLeaf, Option.map_some]
      rfl)
    fun h b f hg ih => by
      rw [ref_succ]
      unfold RawMap.findLeafFrom
      simp only [hg, rawOfBranch, List.getElem?_map, routeLeaf]
      cases hci : b.children[upperBound b.keys k]? with
      | none => rfl
      | some c => exact ih c (List.mem_of_getElem? hci)

theorem getRec_route : ∀ (h : Nat) (t : Tree K V h) (k : K),
    getRec h t k = (routeLeaf h t k).bind (fun l => getRec 0 (l : Tree K V 0) k) := by
  intro h
  induction h with
  | zero => intro t k; rfl
  | succ h ih =>
    intro t k
    simp only [getRec, routeLeaf]
    cases hci : (Branch.children t)[upperBound (Branch.keys t) k]? with
    | none => rfl
    | some c => exact ih c k

theorem height_le_bids : ∀ (h : Nat) (t : Tree K V h) (lo hi : Option Int), Ordered h t lo hi → h ≤ (bids h t).length := by
  intro h
  induction h with
  | zero => intro _ _ _ _; exact Nat.zero_le _
  | succ h ih =>
    intro t lo hi ho
    cases hch : (Branch.children t) with
    | nil => exact absurd hch ho.children_ne_nil
    | cons c0 rest =>
      have := ih c0 _ _ (ho.child (i := 0) (c := c0) (by rw [hch]; rfl))
      rw [bids_succ, hch]
      simp only [List.flatMap_cons, List.length_cons, List.length_append]
      omega

theorem fuel_ok (s : RState K V) (hs : SInv s) : s.height < (view s).fuel := by
  have h1 := height_le_bids s.height s.root none none hs.inv.ord
  have h2 := hs.branchIds.length
  unfold RawMap.fuel
  rw [view_leaves_storage_length, view_branches_storage_length]
  omega

theorem view_findLeaf (s : RState K V) (k : K) (hs : SInv s) (hsm : Small s) :
    (view s).findLeaf k = .ok ((routeLeaf s.height s.root k).map (fun l =>
      (l.id, lowerBound l.keys k, (match l.keys[lowerBound l.keys k]? with | some k' => decide (ord k' = ord k) | none => false)))) :=
  findLeafFrom_spec (view s) s.cap k s.height s.root _ (view_embeds s hs hsm) (fuel_ok s hs)

theorem view_get (s : RState K V) (k : K) (hs : SInv s) (hsm : Small s) : (view s).get k = .ok (get s k) := by
  have he := view_embeds s hs hsm
  unfold RawMap.get
  rw [view_findLeaf s k hs hsm]
  unfold get
  rw [getRec_route]
  cases hr : routeLeaf s.height s.root k with
  | none => rfl
  | some l =>
    obtain ⟨before, l', after, _, _, hr', hlv, _⟩ := route_split s.height s.root none none k hs.inv.ord
    cases hr'.symm.trans hr
    have hl := he.stored l (by rw [hlv]; simp)
    simp only [Option.map_some, Option.bind_some, getRec]
    cases hk : l.keys[lowerBound l.keys k]? with
    | none => rfl
    | some k' =>
      by_cases heq : ord k' = ord k
      · simp only [heq, decide_true, hl, leafToRaw, hk, if_true]
        cases hv : l.vals[lowerBound l.keys k]? <;> rfl
      · simp only [heq, decide_false, if_false]

end BPT.Rust
