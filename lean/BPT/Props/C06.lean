import BPT.Props.C02
import BPT.Rust.ViewArena
import BPT.Rust.Introspect
import BPT.Rust.Churn
/-
  C06 — Rust node arenas: allocated slots equal reachable nodes; freed slots are reused.

  `SInv.leafIds` / `SInv.branchIds` (`IdsOK`): for both arenas and every slot index `i`,
  (#occurrences of `i` among the ids of nodes reachable from the root) + (#occurrences on the free list)
  is 1 when `i` is below the storage length and 0 otherwise.

  Churn: no call lets an arena outgrow the larger of its old size and its new live count (`step_len_le`).
-/
namespace BPT.Props.C06
open BPT BPT.Rust Tree

variable {K V : Type} [Keyed K]

/-- no reachable node sits in a freed slot; reachable ids are pairwise distinct and in range; the free
    list names every unallocated slot exactly once; slot total = reachable + free -/
theorem ids_exact (s : RState K V) (hs : SInv s) :
    ((leaves s.height s.root).map (·.id) ++ s.al.leaf.free).Nodup ∧
    (∀ x ∈ (leaves s.height s.root).map (·.id) ++ s.al.leaf.free, x < s.al.leaf.len) ∧
    (leaves s.height s.root).length + s.al.leaf.free.length = s.al.leaf.len ∧
    (bids s.height s.root ++ s.al.branch.free).Nodup ∧
    (∀ x ∈ bids s.height s.root ++ s.al.branch.free, x < s.al.branch.len) ∧
    (bids s.height s.root).length + s.al.branch.free.length = s.al.branch.len := by
  have fl := hs.leaves_idsOK
  have fb := hs.branchIds
  exact ⟨fl.nodup, fun _ => fl.lt, (live_plus_free s hs).1, fb.nodup, fun _ => fb.lt, (live_plus_free s hs).2⟩

/-- every slot index of the leaf arena is either a reachable leaf or on the free list (never both, never neither) -/
theorem free_list_exact (s : RState K V) (hs : SInv s) (i : Nat) (hi : i < s.al.leaf.len) :
    (i ∈ (leaves s.height s.root).map (·.id) ∧ i ∉ s.al.leaf.free) ∨ (i ∉ (leaves s.height s.root).map (·.id) ∧ i ∈ s.al.leaf.free) := by
  have fl := hs.leaves_idsOK
  rcases List.mem_append.1 (fl.mem_of_lt hi) with hm | hf
  · exact .inl ⟨hm, fl.not_free hm⟩
  · exact .inr ⟨fun hm => fl.not_free hm hf, hf⟩

/-- **allocated = reachable**, on the arenas as the code stores them: both viewed arenas are well-formed
    `CompactArena`s whose allocated counts are the numbers of reachable leaves / branches -/
theorem allocated_eq_reachable (s : RState K V) (hs : SInv s) (hsm : Small s) :
    Arena.AInv (view s).leaves ∧ Arena.AInv (view s).branches ∧
    (view s).leaves.len = (leaves s.height s.root).length ∧ (view s).branches.len = (bids s.height s.root).length ∧
    (view s).leaves.freeCount = s.al.leaf.len - (leaves s.height s.root).length ∧
    (view s).branches.freeCount = s.al.branch.len - (bids s.height s.root).length := by
  obtain ⟨h1, h2, h3, h4⟩ := view_arenas s hs hsm
  refine ⟨h1, h2, h3, h4, ?_, ?_⟩
  · rw [← view_leaves_storage_length s, ← h3]; exact Nat.eq_sub_of_add_eq' (Arena.counters _ h1).1
  · rw [← view_branches_storage_length s, ← h4]; exact Nat.eq_sub_of_add_eq' (Arena.counters _ h2).1

/-- every reachable node is found in its slot -/
theorem reachable_nodes_stored (s : RState K V) (hs : SInv s) (hsm : Small s) : Embeds (view s) s.cap s.height s.root :=
  view_embeds s hs hsm

theorem clear_single_leaf (s : RState K V) :
    (clear s).height = 0 ∧ leaves (clear s).height (clear s).root = [emptyLeaf 0] ∧
    (clear s).al.leaf = { len := 1, free := [] } ∧ (clear s).al.branch = { len := 0, free := [] } :=
  ⟨rfl, rfl, rfl, rfl⟩

/-- the allocator hands out an id from the free list and extends the storage only when the free list is empty
    (`Alloc.alloc` takes the head, the most recently freed id; the statement says only `a.alloc.1 ∈ a.free`) -/
theorem alloc_reuses (a : Alloc) : (a.free ≠ [] → a.alloc.2.len = a.len ∧ a.alloc.1 ∈ a.free) ∧
    (a.free = [] → a.alloc.1 = a.len ∧ a.alloc.2.len = a.len + 1) := by
  unfold Alloc.alloc
  constructor
  · intro h
    cases hf : a.free with
    | nil => exact absurd hf h
    | cons x rest => simp
  · intro h; simp [h]

/-- `len`, `leaf_count`, `count_nodes_in_tree`, `leaf_sizes`, the collected leaf ids and `is_leaf_root` on the arena
    view of a valid state are the corresponding functions of the tree -/
theorem introspection_agrees (s : RState K V) (hs : SInv s) (hsm : Small s) :
    (view s).len = .ok (abs s).length ∧
    (view s).leafCount = .ok (leaves s.height s.root).length ∧
    (view s).countNodes = .ok ((leaves s.height s.root).length, (bids s.height s.root).length) ∧
    (view s).leafSizes = .ok ((leaves s.height s.root).map (fun l => l.keys.length)) ∧
    (view s).leafIds = .ok ((leaves s.height s.root).map (·.id)) ∧
    (view s).isLeafRoot = decide (s.height = 0) :=
  ⟨view_len s hs hsm, view_leafCount s hs hsm, view_countNodes s hs hsm, view_leafSizes s hs hsm, view_leafIds s hs hsm,
   view_isLeafRoot s⟩

theorem count_nodes_eq_allocated (s : RState K V) (hs : SInv s) (hsm : Small s) :
    (view s).countNodes = .ok ((view s).leaves.len, (view s).branches.len) := by
  obtain ⟨_, _, h1, h2⟩ := view_arenas s hs hsm
  rw [view_countNodes s hs hsm, h1, h2]

/-- a history with a ghost pair: the largest numbers of leaves / branches live at the same time since
    construction or the last `clear` -/
def peakStep (p : RState K V × (Nat × Nat)) (op : C01.Op K V) : Option (RState K V × (Nat × Nat)) :=
  (C01.step p.1 op).map fun r =>
    match op with
    | .clear => (r.1, (liveLeaves r.1, liveBranches r.1))
    | _ => (r.1, (max p.2.1 (liveLeaves r.1), max p.2.2 (liveBranches r.1)))

-- `(1, 0)`: the live counts of the fresh state
def peakRun (cap : Nat) (ops : List (C01.Op K V)) : Option (RState K V × (Nat × Nat)) :=
  ops.foldl (fun acc op => acc.bind fun p => peakStep p op) (some ((freshState cap : RState K V), (1, 0)))

theorem step_len_le (s s' : RState K V) (op : C01.Op K V) (o : C01.Out V) (hs : SInv s)
    (he : C01.step s op = some (s', o)) :
    s'.al.leaf.len ≤ max s.al.leaf.len (liveLeaves s') ∧ s'.al.branch.len ≤ max s.al.branch.len (liveBranches s') := by
  have same : ∀ {t : RState K V}, t.al.leaf.len = s.al.leaf.len → t.al.branch.len = s.al.branch.len →
      t.al.leaf.len ≤ max s.al.leaf.len (liveLeaves t) ∧ t.al.branch.len ≤ max s.al.branch.len (liveBranches t) :=
    fun h1 h2 => ⟨h1 ▸ Nat.le_max_left _ _, h2 ▸ Nat.le_max_left _ _⟩
  refine C01.step_state_cases he (fun k v old h => insert_len_le s s' k v old hs h)
    (fun k old h => let ⟨hleaf, hbranch⟩ := remove_lens s s' k old hs h; same hleaf hbranch) (fun k v => ?_)
    ⟨Nat.le_max_right _ _, Nat.zero_le _⟩ (same rfl rfl)   -- `clear`: one leaf slot, one live leaf, no branch slot
  have : (getMutWrite s k v).1.al = s.al := by unfold getMutWrite; cases get s k <;> rfl
  exact same (by rw [this]) (by rw [this])

def PeakOK (p : RState K V × (Nat × Nat)) : Prop :=
  SInv p.1 ∧ p.1.al.leaf.len ≤ p.2.1 ∧ p.1.al.branch.len ≤ p.2.2 ∧ liveLeaves p.1 ≤ p.2.1 ∧ liveBranches p.1 ≤ p.2.2

theorem peakStep_ok (p q : RState K V × (Nat × Nat)) (op : C01.Op K V) (hp : PeakOK p) (h : peakStep p op = some q) :
    PeakOK q := by
  obtain ⟨r, hcs, hq⟩ := Option.map_eq_some_iff.1 h
  obtain ⟨hs, h1, h2, _, _⟩ := hp
  have hs1 := C02.step_sinv p.1 op hs r.1 r.2 hcs
  obtain ⟨l1, l2⟩ := step_len_le p.1 r.1 op r.2 hs hcs
  have mono : ∀ {x a b M : Nat}, x ≤ max a b → a ≤ M → x ≤ max M b := fun h hM =>
    Nat.le_trans h (Nat.max_le.2 ⟨Nat.le_trans hM (Nat.le_max_left _ _), Nat.le_max_right _ _⟩)
  -- every call but `clear` takes the maximum
  have hmax : q = (r.1, (max p.2.1 (liveLeaves r.1), max p.2.2 (liveBranches r.1))) → PeakOK q := fun e =>
    e ▸ ⟨hs1, mono l1 h1, mono l2 h2, Nat.le_max_right _ _, Nat.le_max_right _ _⟩
  cases op with
  | clear => cases hcs; cases hq; exact ⟨hs1, Nat.le_refl _, Nat.zero_le _, Nat.le_refl _, Nat.le_refl _⟩
  | _ => exact hmax hq.symm

/-- **churn bound**: along every history from `new(cap)`, each arena's storage length is at most the largest number of
    its nodes live at the same time since construction or the last `clear` -/
theorem slots_le_peak_live (cap : Nat) (hcap : 4 ≤ cap) (ops : List (C01.Op K V)) (s : RState K V) (M : Nat × Nat)
    (h : peakRun cap ops = some (s, M)) :
    SInv s ∧ s.al.leaf.len ≤ M.1 ∧ s.al.branch.len ≤ M.2 ∧ liveLeaves s ≤ M.1 ∧ liveBranches s ≤ M.2 :=
  foldl_bind_inv peakStep PeakOK peakStep_ok ops _ (s, M)
    ⟨sinv_fresh cap hcap, Nat.le_refl _, Nat.le_refl _, Nat.le_refl _, Nat.le_refl _⟩ h

/-- non-vacuity, at `C02.demo_state` (three levels, five freed leaf slots) -/
example : ∃ s : RState Int Nat, s.height = 2 ∧ s.al.leaf.free.length = 5 ∧
    (view s).countNodes = .ok ((view s).leaves.len, (view s).branches.len) ∧ (view s).len = .ok 30 := by
  obtain ⟨s, hs, hsm, hh, hl, hf⟩ := C02.demo_state
  exact ⟨s, hh, hf, count_nodes_eq_allocated s hs hsm, hl ▸ (introspection_agrees s hs hsm).1⟩

end BPT.Props.C06
