import BPT.Core.Search
/- The ordering invariant, stated index-wise like the Rust validator computes child_min/child_max, and what it
   means for the entry list of a subtree: within the bounds, strictly ascending. -/
namespace BPT
variable {K V : Type} [Keyed K]

/-- closed below: a separator may equal the least key to its right; `none` is no bound -/
def InB (lo hi : Option Int) (x : Int) : Prop :=
  (∀ l, lo = some l → l ≤ x) ∧ (∀ u, hi = some u → x < u)

def loAt (ks : List K) (lo : Option Int) (i : Nat) : Option Int := if i = 0 then lo else (ks[i-1]?).map ord
def hiAt (ks : List K) (hi : Option Int) (i : Nat) : Option Int := if i = ks.length then hi else (ks[i]?).map ord

namespace Tree

def Ordered : (h : Nat) → Tree K V h → Option Int → Option Int → Prop
  | 0, (l : Leaf K V), lo, hi =>
      KSorted l.keys ∧ l.keys.length = l.vals.length ∧ ∀ k ∈ l.keys, InB lo hi (ord k)
  | h+1, (b : Branch K (Tree K V h)), lo, hi =>
      KSorted b.keys ∧ b.children.length = b.keys.length + 1 ∧ (∀ k ∈ b.keys, InB lo hi (ord k)) ∧
      ∀ i (c : Tree K V h), b.children[i]? = some c → Ordered h c (loAt b.keys lo i) (hiAt b.keys hi i)

end Tree

theorem InB.lo_le {lo hi : Option Int} {x l : Int} (h : InB lo hi x) (e : lo = some l) : l ≤ x := h.1 l e

theorem InB.lt_hi {lo hi : Option Int} {x u : Int} (h : InB lo hi x) (e : hi = some u) : x < u := h.2 u e

/-- `InB` is monotone in its bounds -/
theorem InB.widen {lo hi lo' hi' : Option Int} {x : Int} (h : InB lo hi x)
    (hl : ∀ l, lo' = some l → ∃ l0, lo = some l0 ∧ l ≤ l0) (hh : ∀ u, hi' = some u → ∃ u0, hi = some u0 ∧ u0 ≤ u) :
    InB lo' hi' x := by
  constructor
  · intro l hl'; obtain ⟨l0, h1, h2⟩ := hl l hl'; exact Int.le_trans h2 (h.lo_le h1)
  · intro u hu'; obtain ⟨u0, h1, h2⟩ := hh u hu'; exact Int.lt_of_lt_of_le (h.lt_hi h1) h2

theorem InB.cut_hi {lo hi : Option Int} {x s : Int} (h : InB lo hi x) (hs : x < s) : InB lo (some s) x :=
  ⟨h.1, fun _ hu => Option.some.inj hu ▸ hs⟩

theorem InB.cut_lo {lo hi : Option Int} {x s : Int} (h : InB lo hi x) (hs : s ≤ x) : InB (some s) hi x :=
  ⟨fun _ hl => Option.some.inj hl ▸ hs, h.2⟩

theorem InB.glue_hi {lo hi : Option Int} {x s : Int} (h : InB lo (some s) x) (hs : ∀ u, hi = some u → s ≤ u) : InB lo hi x :=
  h.widen (fun l e => ⟨l, e, Int.le_refl l⟩) fun u hu => ⟨s, rfl, hs u hu⟩

theorem InB.glue_lo {lo hi : Option Int} {x s : Int} (h : InB (some s) hi x) (hs : ∀ l, lo = some l → l ≤ s) : InB lo hi x :=
  h.widen (fun l hl => ⟨s, rfl, hs l hl⟩) fun u e => ⟨u, e, Int.le_refl u⟩

theorem InB.lt {a b x : Int} (h : InB (some a) (some b) x) : a < b :=
  Int.lt_of_le_of_lt (h.lo_le rfl) (h.lt_hi rfl)

theorem inB_none {x : Int} : InB none none x := by
  unfold InB
  constructor <;> intro _ h <;> cases h

namespace Tree.Ordered
variable {h : Nat} {b : Branch K (Tree K V h)} {l : Leaf K V} {lo hi : Option Int}

theorem sorted (hb : Ordered (h+1) b lo hi) : KSorted b.keys := hb.1

theorem arity (hb : Ordered (h+1) b lo hi) : b.children.length = b.keys.length + 1 := hb.2.1

theorem keys_inB (hb : Ordered (h+1) b lo hi) : ∀ k ∈ b.keys, InB lo hi (ord k) := hb.2.2.1

theorem child (hb : Ordered (h+1) b lo hi) {i : Nat} {c : Tree K V h} (hc : b.children[i]? = some c) :
    Ordered h c (loAt b.keys lo i) (hiAt b.keys hi i) := hb.2.2.2 i c hc

theorem children_ne_nil (hb : Ordered (h+1) b lo hi) : b.children ≠ [] :=
  fun e => by have := hb.arity; rw [e] at this; cases this

theorem children_gt_keys (hb : Ordered (h+1) b lo hi) {m : Nat} (hm : m ≤ b.keys.length) : m + 1 ≤ b.children.length := by
  rw [hb.arity]; exact Nat.succ_le_succ hm

theorem one_le_keys (hb : Ordered (h+1) b lo hi) {c c2 : Tree K V h} {rest : List (Tree K V h)} (hch : b.children = c :: c2 :: rest) :
    1 ≤ b.keys.length := by
  have := hb.arity; rw [hch] at this; exact Nat.le_of_succ_le_succ (Nat.le_trans (Nat.succ_le_succ (Nat.succ_pos _)) (Nat.le_of_eq this))

theorem leaf_sorted (ho : Ordered 0 (l : Tree K V 0) lo hi) : KSorted l.keys := ho.1

theorem leaf_lens (ho : Ordered 0 (l : Tree K V 0) lo hi) : l.keys.length = l.vals.length := ho.2.1

theorem leaf_inB (ho : Ordered 0 (l : Tree K V 0) lo hi) : ∀ k ∈ l.keys, InB lo hi (ord k) := ho.2.2

end Tree.Ordered

/-- number of keys in the root node of a subtree -/
def nkeys : (h : Nat) → Tree K V h → Nat
  | 0, (l : Leaf K V) => l.keys.length
  | _+1, (b : Branch K (Tree K V _)) => b.keys.length

theorem bounds_strict (h : Nat) (t : Tree K V h) (a b : Int) (ho : Tree.Ordered h t (some a) (some b)) (hn : 1 ≤ nkeys h t) :
    a < b := by
  cases h with
  | zero =>
    obtain ⟨x, hx⟩ := List.exists_mem_of_length_pos (show 0 < (t : Leaf K V).keys.length from hn)
    exact (ho.leaf_inB x hx).lt
  | succ h =>
    obtain ⟨x, hx⟩ := List.exists_mem_of_length_pos (show 0 < (Branch.keys t).length from hn)
    exact (ho.keys_inB x hx).lt

/-- what a split hands to the parent, what a branch knows of two adjacent children, what a borrow re-establishes -/
structure Cut (h : Nat) (lo hi : Option Int) (a : Tree K V h) (sep : K) (b : Tree K V h) : Prop where
  left : Tree.Ordered h a lo (some (ord sep))
  right : Tree.Ordered h b (some (ord sep)) hi
  inB : InB lo hi (ord sep)

/-- `hc.inB` says only `≤` -/
theorem Cut.lo_lt {h : Nat} {lo hi : Option Int} {a b : Tree K V h} {sep : K} (hc : Cut h lo hi a sep b) (hne : 1 ≤ nkeys h a) :
    ∀ x, lo = some x → x < ord sep := by
  intro x hx
  subst hx
  exact bounds_strict h a x (ord sep) hc.left hne

theorem loAt_zero (ks : List K) (lo : Option Int) : loAt ks lo 0 = lo := rfl

theorem hiAt_length (ks : List K) (hi : Option Int) : hiAt ks hi ks.length = hi := if_pos rfl

theorem Tree.Ordered.last_child {h : Nat} {b : Branch K (Tree K V h)} {lo hi : Option Int} (hb : Tree.Ordered (h+1) b lo hi) :
    ∃ A c, b.children = A ++ [c] ∧ A.length = b.keys.length ∧ Tree.Ordered h c (loAt b.keys lo b.keys.length) hi := by
  obtain ⟨c, _, hA⟩ := exists_getLast? b.children (by rw [hb.arity]; exact Nat.succ_pos _)
  have hlen : b.children.dropLast.length = b.keys.length := by rw [List.length_dropLast, hb.arity]; rfl
  have hco := hb.child (i := b.keys.length) (c := c) (by rw [← hA, ← hlen, List.getElem?_concat_length])
  rw [hiAt_length] at hco
  exact ⟨_, c, hA.symm, hlen, hco⟩

theorem loAt_cons_succ (k : K) (ks : List K) (lo : Option Int) (j : Nat) :
    loAt (k :: ks) lo (j+1) = loAt ks (some (ord k)) j := by
  cases j <;> rfl

theorem hiAt_cons_zero (k : K) (ks : List K) (hi : Option Int) : hiAt (k :: ks) hi 0 = some (ord k) := rfl

theorem hiAt_cons_succ (k : K) (ks : List K) (hi : Option Int) (j : Nat) :
    hiAt (k :: ks) hi (j+1) = hiAt ks hi j := by
  simp only [hiAt, List.length_cons, Nat.add_right_cancel_iff, List.getElem?_cons_succ]

theorem hiAt_eq_some (ks : List K) (hi : Option Int) (j : Nat) (s : K) (h : ks[j]? = some s) : hiAt ks hi j = some (ord s) := by
  unfold hiAt; rw [if_neg (Nat.ne_of_lt (lt_of_getElem?_eq_some h)), h]; rfl

theorem loAt_succ_eq_some (ks : List K) (lo : Option Int) (j : Nat) (s : K) (h : ks[j]? = some s) :
    loAt ks lo (j+1) = some (ord s) := by
  unfold loAt; rw [if_neg (Nat.succ_ne_zero j), Nat.add_sub_cancel, h]; rfl

theorem loAt_take_length {ks : List K} {lo : Option Int} {i : Nat} (h : i ≤ ks.length) :
    loAt (ks.take i) lo (ks.take i).length = loAt ks lo i := by
  rw [List.length_take, Nat.min_eq_left h]
  unfold loAt
  split
  · rfl
  · rw [List.getElem?_take, if_pos (Nat.sub_one_lt ‹_›)]

theorem hiAt_drop_zero {ks : List K} {hi : Option Int} {i : Nat} (h : i ≤ ks.length) :
    hiAt (ks.drop i) hi 0 = hiAt ks hi i := by
  unfold hiAt
  rw [List.length_drop, List.getElem?_drop, Nat.add_zero]
  by_cases e : i = ks.length
  · rw [if_pos e, if_pos (Nat.sub_eq_zero_of_le (Nat.le_of_eq e.symm)).symm]
  · rw [if_neg e, if_neg (Nat.sub_ne_zero_of_lt (Nat.lt_of_le_of_ne h e)).symm]

theorem loAt_cases (ks : List K) (lo : Option Int) {i : Nat} (h : i ≤ ks.length) :
    loAt ks lo i = lo ∨ ∃ y ∈ ks.take i, loAt ks lo i = some (ord y) := by
  cases i with
  | zero => exact .inl rfl
  | succ i =>
    obtain ⟨y, hy⟩ := exists_getElem? (Nat.lt_of_succ_le h)
    exact .inr ⟨y, mem_take_iff_getElem?.2 ⟨i, Nat.lt_succ_self i, hy⟩, loAt_succ_eq_some ks lo i y hy⟩

theorem hiAt_cases (ks : List K) (hi : Option Int) {i : Nat} (h : i ≤ ks.length) :
    hiAt ks hi i = hi ∨ ∃ y ∈ ks.drop i, hiAt ks hi i = some (ord y) := by
  rcases Nat.eq_or_lt_of_le h with rfl | hlt
  · exact .inl (if_pos rfl)
  · obtain ⟨y, hy⟩ := exists_getElem? hlt
    exact .inr ⟨y, mem_drop_iff_getElem?.2 ⟨0, hy⟩, hiAt_eq_some ks hi i y hy⟩

theorem keys_take_lt_of_lo (ks : List K) (lo : Option Int) (i : Nat) (s : Int) (hs : KSorted ks) (hik : i ≤ ks.length)
    (h : ∀ x, loAt ks lo i = some x → x < s) : ∀ x ∈ ks.take i, ord x < s := by
  intro x hx
  obtain ⟨j, hj, hxj⟩ := mem_take_iff_getElem?.1 hx
  -- `x` sits at some `j < i`, so `i` is not 0 and the lower bound of child `i` is key `i - 1`
  obtain ⟨i, rfl⟩ := Nat.exists_eq_add_one_of_ne_zero (Nat.ne_of_gt (Nat.zero_lt_of_lt hj))
  obtain ⟨y, hy⟩ := exists_getElem? (Nat.lt_of_succ_le hik)
  exact Int.lt_of_le_of_lt (hs.getElem?_le hxj hy (Nat.le_of_lt_succ hj)) (h _ (loAt_succ_eq_some ks lo i y hy))

theorem keys_drop_gt_of_hi (ks : List K) (hi : Option Int) (i : Nat) (s : Int) (hs : KSorted ks)
    (h : ∀ x, hiAt ks hi i = some x → s < x) : ∀ x ∈ ks.drop i, s < ord x := by
  intro x hx
  obtain ⟨j, hxj⟩ := mem_drop_iff_getElem?.1 hx
  obtain ⟨y, hy⟩ := exists_getElem? (Nat.lt_of_le_of_lt (Nat.le_add_right i j) (lt_of_getElem?_eq_some hxj))
  exact Int.lt_of_lt_of_le (h _ (hiAt_eq_some ks hi i y hy)) (hs.getElem?_le hy hxj (Nat.le_add_right i j))

/-- In a branch `kl = kr` are its keys; around a run of keys they are the keys on either side (`i = kl.length`, `j = 0`). -/
theorem InB.of_child {kl kr : List K} {lo hi : Option Int} {i j : Nat} {x : Int} (hik : i ≤ kl.length) (hjk : j ≤ kr.length)
    (hl : ∀ k ∈ kl, InB lo hi (ord k)) (hr : ∀ k ∈ kr, InB lo hi (ord k))
    (hx : InB (loAt kl lo i) (hiAt kr hi j) x) : InB lo hi x := by
  constructor
  · intro l hlo
    rcases loAt_cases kl lo hik with e | ⟨y, hy, e⟩
    · exact hx.lo_le (e.trans hlo)
    · exact Int.le_trans ((hl y (List.mem_of_mem_take hy)).lo_le hlo) (hx.lo_le e)
  · intro u hu
    rcases hiAt_cases kr hi hjk with e | ⟨y, hy, e⟩
    · exact hx.lt_hi (e.trans hu)
    · exact Int.lt_trans (hx.lt_hi e) ((hr y (List.mem_of_mem_drop hy)).lt_hi hu)

theorem InB.to_child {kl kr : List K} {lo hi : Option Int} {i j : Nat} {x : Int} (hik : i ≤ kl.length) (hjk : j ≤ kr.length)
    (h1 : ∀ k ∈ kl.take i, ord k ≤ x) (h2 : ∀ k ∈ kr.drop j, x < ord k) (hx : InB lo hi x) :
    InB (loAt kl lo i) (hiAt kr hi j) x := by
  constructor
  · intro l hl
    rcases loAt_cases kl lo hik with e | ⟨y, hy, e⟩
    · exact hx.lo_le (e.symm.trans hl)
    · rw [e] at hl; cases hl; exact h1 y hy
  · intro u hu
    rcases hiAt_cases kr hi hjk with e | ⟨y, hy, e⟩
    · exact hx.lt_hi (e.symm.trans hu)
    · rw [e] at hu; cases hu; exact h2 y hy

theorem Tree.Ordered.child_of_mem {h : Nat} {b : Branch K (Tree K V h)} {lo hi : Option Int} (hb : Tree.Ordered (h+1) b lo hi)
    {c : Tree K V h} (hc : c ∈ b.children) :
    ∃ i, i ≤ b.keys.length ∧ Tree.Ordered h c (loAt b.keys lo i) (hiAt b.keys hi i) := by
  obtain ⟨i, hci⟩ := List.getElem?_of_mem hc
  exact ⟨i, Nat.le_of_lt_succ (show i < b.keys.length + 1 from hb.arity ▸ lt_of_getElem?_eq_some hci), hb.child hci⟩

open Tree

namespace Tree
omit [Keyed K] in
theorem toList_zero (t : Tree K V 0) : toList 0 t = Leaf.entries (t : Leaf K V) := by
  show List.flatMap Leaf.entries [(t : Leaf K V)] = _
  simp

omit [Keyed K] in
theorem toList_succ (h : Nat) (t : Tree K V (h+1)) :
    toList (h+1) t = (Branch.children (t : Branch K (Tree K V h))).flatMap (toList h) := by
  simp only [toList, leaves, List.flatMap_assoc]
  rfl

theorem toList_inB : ∀ (h : Nat) (t : Tree K V h) (lo hi : Option Int), Ordered h t lo hi →
    ∀ p ∈ toList h t, InB lo hi (ord p.1) := by
  intro h
  induction h with
  | zero =>
    intro t lo hi ho p hp
    rw [toList_zero] at hp
    exact ho.leaf_inB _ (List.of_mem_zip hp).1
  | succ h ih =>
    intro t lo hi ho p hp
    rw [toList_succ, List.mem_flatMap] at hp
    obtain ⟨c, hcm, hpc⟩ := hp
    obtain ⟨i, hik, hco⟩ := ho.child_of_mem hcm
    exact (ih c _ _ hco p hpc).of_child hik hik ho.keys_inB ho.keys_inB

theorem Ordered.lt_key {h : Nat} {b : Branch K (Tree K V h)} {lo hi : Option Int} (hb : Ordered (h+1) b lo hi)
    {i j : Nat} {c : Tree K V h} {s : K} (hc : b.children[i]? = some c) (hs : b.keys[j]? = some s) (hij : i ≤ j) :
    ∀ p ∈ toList h c, ord p.1 < ord s := by
  obtain ⟨s', hs'⟩ := exists_getElem? (Nat.lt_of_le_of_lt hij (lt_of_getElem?_eq_some hs))
  exact fun p hp => Int.lt_of_lt_of_le ((toList_inB h c _ _ (hb.child hc) p hp).lt_hi (hiAt_eq_some _ _ _ _ hs'))
    (hb.sorted.getElem?_le hs' hs hij)

theorem Ordered.key_le {h : Nat} {b : Branch K (Tree K V h)} {lo hi : Option Int} (hb : Ordered (h+1) b lo hi)
    {i j : Nat} {c : Tree K V h} {s : K} (hc : b.children[i]? = some c) (hs : b.keys[j]? = some s) (hji : j < i) :
    ∀ p ∈ toList h c, ord s ≤ ord p.1 := by
  cases i with
  | zero => exact absurd hji (Nat.not_lt_zero j)
  | succ i =>
    obtain ⟨s', hs'⟩ := exists_getElem? (Nat.lt_of_succ_lt_succ (show i + 1 < b.keys.length + 1 from hb.arity ▸ lt_of_getElem?_eq_some hc))
    exact fun p hp => Int.le_trans (hb.sorted.getElem?_le hs hs' (Nat.le_of_lt_succ hji))
      ((toList_inB h c _ _ (hb.child hc) p hp).lo_le (loAt_succ_eq_some _ _ _ _ hs'))
end Tree

theorem branch_entries (h : Nat) (t : Tree K V (h+1)) (lo hi : Option Int) (m : Nat) {n : Nat} (ho : Ordered (h+1) t lo hi)
    (hm : m ≤ (Branch.keys t).length) (hall : ∀ c ∈ Branch.children t, n ≤ (toList h c).length) :
    (m + 1) * n ≤ (toList (h+1) t).length := by
  rw [toList_succ, List.length_flatMap]
  exact Nat.le_trans (Nat.mul_le_mul_right _ (ho.children_gt_keys hm))
    (length_mul_le_sum (fun c => (toList h c).length) n (Branch.children t) hall)

theorem leaves_ne_nil : ∀ (h : Nat) (t : Tree K V h) (lo hi : Option Int), Ordered h t lo hi → leaves h t ≠ [] := by
  intro h
  induction h with
  | zero => intro t _ _ _; simp [leaves]
  | succ h ih =>
    intro t lo hi ho hnil
    have h0 : 0 < (Branch.children t).length := by rw [ho.arity]; exact Nat.succ_pos _
    simp only [leaves, List.flatMap_eq_nil_iff] at hnil
    exact ih _ _ _ (ho.child (List.getElem?_eq_getElem h0)) (hnil _ (List.getElem_mem h0))

theorem Tree.toList_sorted : ∀ (h : Nat) (t : Tree K V h) (lo hi : Option Int), Ordered h t lo hi → SMap.Sorted (toList h t) := by
  intro h
  induction h with
  | zero =>
    intro t lo hi ho
    rw [toList_zero]
    exact zip_sorted ho.leaf_sorted
  | succ h ih =>
    intro t lo hi ho
    rw [toList_succ]
    unfold SMap.Sorted
    rw [List.pairwise_flatMap]
    constructor
    · intro c hcm
      obtain ⟨_, _, hco⟩ := ho.child_of_mem hcm
      exact ih c _ _ hco
    · rw [List.pairwise_iff_getElem]
      intro i j hi' hj hij x hx y hy
      -- separator `i` lies above `x` and not above `y`
      obtain ⟨s, hs⟩ := exists_getElem? (show i < (Branch.keys t).length by have := ho.arity; omega)
      exact Int.lt_of_lt_of_le (ho.lt_key (List.getElem?_eq_getElem hi') hs (Nat.le_refl i) x hx)
        (ho.key_le (List.getElem?_eq_getElem hj) hs hij y hy)

end BPT
