import BPT.Core.Links
import BPT.Rust.InsertEqns
/- Effect of insert on the leaf links and on the leaf allocator. -/
namespace BPT.Rust
open BPT Tree
variable {K V : Type} [Keyed K]

def InsRes.links {h : Nat} : InsRes K V h → List (Nat × Nat)
  | .updated t _ => Rust.links h t
  | .split a b _ _ => Rust.links h a ++ Rust.links h b

/-- what an insert does to the links: nothing, or one link `(i, n)` becomes `(i, new), (new, n)`
    where `new` is the id the leaf allocator hands out -/
inductive LinkIns (L L' : List (Nat × Nat)) (a a' : Alloc) : Prop where
  | same (h1 : L' = L) (h2 : a' = a)
  | split (A B : List (Nat × Nat)) (i n : Nat) (h1 : L = A ++ [(i, n)] ++ B)
      (h2 : L' = A ++ [(i, a.alloc.1), (a.alloc.1, n)] ++ B) (h3 : a' = a.alloc.2)

theorem LinkIns.ctx {L L' : List (Nat × Nat)} {a a' : Alloc} (P Q : List (Nat × Nat)) (h : LinkIns L L' a a') :
    LinkIns (P ++ L ++ Q) (P ++ L' ++ Q) a a' := by
  cases h with
  | same h1 h2 => exact .same (by rw [h1]) h2
  | split A B i n h1 h2 h3 =>
    exact .split (P ++ A) (B ++ Q) i n (append_ctx P Q h1) (append_ctx P Q h2) h3

theorem LinkIns.chain {L L' : List (Nat × Nat)} {a a' : Alloc} (h : LinkIns L L' a a') (nxt : Nat) (hc : ChainL L nxt) :
    ChainL L' nxt ∧ firstOf L' nxt = firstOf L nxt := by
  cases h with
  | same h1 h2 => rw [h1]; exact ⟨hc, rfl⟩
  | split A B i n h1 h2 h3 => rw [h1] at hc; rw [h1, h2]; exact chainL_split A B i n _ nxt hc

omit [Keyed K] in
theorem splitLeafAt_links_branchAlloc (l : Leaf K V) (k : K) (v : V) (al : Allocs) (i mid : Nat) (res : InsRes K V 0) (al' : Allocs)
    (he : splitLeafAt l k v al i mid = some (res, al')) :
    LinkIns (links 0 (l : Tree K V 0)) res.links al.leaf al'.leaf ∧ al'.branch = al.branch := by
  unfold splitLeafAt at he
  simp only [] at he
  split at he
  · cases he
  · cases he
    refine ⟨.split [] [] l.id l.next rfl ?_ rfl, rfl⟩
    -- both halves have the same ids and links whichever of them took the new entry
    show [link _] ++ [link _] = _
    cases goesLeft i mid <;> rfl

theorem insertLeaf_links_branchAlloc (cap : Nat) (l : Leaf K V) (k : K) (v : V) (al : Allocs) (res : InsRes K V 0) (al' : Allocs)
    (he : insertLeaf cap l k v al = some (res, al')) :
    LinkIns (links 0 (l : Tree K V 0)) res.links al.leaf al'.leaf ∧ al'.branch = al.branch := by
  rcases lowerBound_hit_or_miss l.keys k with ⟨k', hk', heq⟩ | hnf
  · rw [insertLeaf_present cap l k k' v al hk' heq] at he
    split at he <;> (cases he; exact ⟨.same rfl rfl, rfl⟩)
  · rw [insertLeaf_absent cap l k v al hnf] at he
    unfold insertLeafAbsent at he
    split at he
    · cases he; exact ⟨.same rfl rfl, rfl⟩
    · split at he
      · cases he
      · exact splitLeafAt_links_branchAlloc l k v al _ _ res al' he

omit [Keyed K] in
theorem InsRes.links_eq_flat {h : Nat} (r : InsRes K V h) : r.links = r.flat (Rust.links h) := by cases r <;> rfl

theorem insertRec_links (cap : Nat) :
    ∀ (h : Nat) (t : Tree K V h) (k : K) (v : V) (al : Allocs) (res : InsRes K V h) (al' : Allocs),
      insertRec cap h t k v al = some (res, al') → LinkIns (links h t) res.links al.leaf al'.leaf := by
  intro h t k v
  refine insertRec_induction cap k v (fun h t al res al' => LinkIns (links h t) res.links al.leaf al'.leaf) ?_ ?_ ?_ h t
  · intro l al res al' he; exact (insertLeaf_links_branchAlloc cap l k v al res al' he).1
  · intro h b al _; exact .same rfl rfl
  · intro h b c al cres al1 res al' hci ih hu
    have hf := insertUp_flat cap (links h) b (lt_of_getElem?_eq_some hci) res al' hu
    rw [res.links_eq_flat, links_succ, flatMap_split (links h) hci, insertUp_leafAlloc cap b res al' hu]
    have e : res.flat (links (h+1)) = res.flat (fun t : Tree K V (h+1) => (Branch.children t).flatMap (links h)) := by
      cases res <;> simp only [InsRes.flat, links_succ]
    rw [e, hf, ← cres.links_eq_flat]
    exact ih.ctx _ _

end BPT.Rust
