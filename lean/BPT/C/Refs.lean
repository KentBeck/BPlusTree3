import BPT.C.Top
/-
  Reference-count balance of the C extension model (with D9 repaired): for every call, as multisets,

      slots after  ++  DECREFs   =   slots before  ++  INCREFs

  where the slots are all key / value references held by tree nodes (leaf keys, separator copies, values).
  Every surgery on a node is stated in that form, `after ++ out ~ before ++ in`, and is the sum (`perm_add`) of what
  happens to its key list and to its values or children; what a child releases and acquires, the branch around it
  releases and acquires.
-/
namespace BPT.C
open BPT Tree
variable {K V : Type} [Keyed K]

def InsRes.slots {h : Nat} : InsRes K V h → List (Obj K V)
  | .updated t => slotsOf h t
  | .inserted t => slotsOf h t
  | .split a b sep => slotsOf h a ++ slotsOf h b ++ [Obj.key (V := V) sep]      -- `sep` is an owned reference in transit

theorem slotsOf_zero (l : Leaf K V) : slotsOf 0 (l : Tree K V 0) = l.keys.map (Obj.key (V := V)) ++ l.vals.map (Obj.val (K := K)) := rfl
theorem slotsOf_succ (h : Nat) (b : Branch K (Tree K V h)) :
    slotsOf (h+1) (b : Tree K V (h+1)) = b.keys.map (Obj.key (V := V)) ++ b.children.flatMap (slotsOf h) := rfl

section
omit [Keyed K]

theorem slotsOf_leaf_put (l : Leaf K V) (i j : Nat) (k : K) (v : V) :
    (slotsOf 0 (({ l with keys := insertAt l.keys i k, vals := insertAt l.vals j v } : Leaf K V) : Tree K V 0) ++ []).Perm
      (slotsOf 0 (l : Tree K V 0) ++ [Obj.key k, Obj.val v]) :=
  -- `perm_add` takes what goes out and comes in in front, where `[] ++ X` and `[a] ++ X` reduce to `X` and `a :: X`, and
  -- concludes with them behind: hence the `++ []` above and in `slotsOf_leaf_remove`
  perm_add (O := []) (I := [Obj.key k]) (O' := []) (I' := [Obj.val v])
    ((perm_insertAt l.keys i k).map Obj.key) ((perm_insertAt l.vals j v).map Obj.val)

theorem slotsOf_leaf_set (l : Leaf K V) {i : Nat} (v old : V) (h : l.vals[i]? = some old) :
    (slotsOf 0 (({ l with vals := setAt l.vals i v } : Leaf K V) : Tree K V 0) ++ [Obj.val old]).Perm
      (slotsOf 0 (l : Tree K V 0) ++ [Obj.val v]) :=
  perm_add (O := []) (I := []) (O' := [Obj.val old]) (I' := [Obj.val v]) (.refl _) ((perm_setAt l.vals i v old h).map Obj.val)

theorem slotsOf_leaf_remove (l : Leaf K V) {i j : Nat} (k : K) (v : V) (hk : l.keys[i]? = some k) (hv : l.vals[j]? = some v) :
    (slotsOf 0 (({ l with keys := removeAt l.keys i, vals := removeAt l.vals j } : Leaf K V) : Tree K V 0) ++ [Obj.key k, Obj.val v]).Perm
      (slotsOf 0 (l : Tree K V 0) ++ []) :=
  perm_add (O := [Obj.key k]) (I := []) (O' := [Obj.val v]) (I' := [])
    ((perm_removeAt l.keys i k hk).map Obj.key) ((perm_removeAt l.vals j v hv).map Obj.val)

theorem slotsOf_leaf_cut (l : Leaf K V) (m i₁ i₂ n₁ n₂ : Nat) :
    (slotsOf 0 (({ id := i₁, keys := l.keys.take m, vals := l.vals.take m, next := n₁ } : Leaf K V) : Tree K V 0) ++
      slotsOf 0 (({ id := i₂, keys := l.keys.drop m, vals := l.vals.drop m, next := n₂ } : Leaf K V) : Tree K V 0)).Perm
      (slotsOf 0 (l : Tree K V 0)) := by
  simp only [slotsOf_zero]
  conv => rhs; rw [← List.take_append_drop m l.keys, ← List.take_append_drop m l.vals, List.map_append, List.map_append]
  exact perm_swap4 _ _ _ _

theorem slotsOf_branch_cut {h : Nat} {ks : List K} {cs : List (Tree K V h)} (m : Nat) {i i₁ i₂ : Nat} (pk : K) (hm : ks[m]? = some pk) :
    (slotsOf (h+1) (({ id := i₁, keys := ks.take m, children := cs.take (m+1) } : Branch K (Tree K V h)) : Tree K V (h+1)) ++
      slotsOf (h+1) (({ id := i₂, keys := ks.drop (m+1), children := cs.drop (m+1) } : Branch K (Tree K V h)) : Tree K V (h+1)) ++
      [Obj.key pk]).Perm (slotsOf (h+1) (({ id := i, keys := ks, children := cs } : Branch K (Tree K V h)) : Tree K V (h+1))) := by
  simp only [slotsOf_succ]
  conv => rhs; rw [eq_take_cons_drop ks m pk hm, ← List.take_append_drop (m+1) cs, List.map_append, List.flatMap_append]
  -- the two halves side by side, then the separator back between the keys
  exact ((perm_swap4 _ _ _ _).append_right _).trans ((List.perm_append_singleton _ _).trans (List.perm_middle.symm.append_right _))

end

/-- a child's balance framed into the branch: the left side is the slots of `b` with `X` in the place of child `i` -/
theorem slotsOf_under {h : Nat} (b : Branch K (Tree K V h)) (i : Nat) (c : Tree K V h) (hci : b.children[i]? = some c)
    {X D I : List (Obj K V)} (hc : (X ++ D).Perm (slotsOf h c ++ I)) :
    ((b.keys.map Obj.key ++ ((b.children.take i).flatMap (slotsOf h) ++ X ++ (b.children.drop (i+1)).flatMap (slotsOf h))) ++ D).Perm
      (slotsOf (h+1) (b : Tree K V (h+1)) ++ I) := by
  rw [slotsOf_succ, flatMap_split (slotsOf h) hci]
  exact perm_frame hc

theorem slotsOf_replace1 {h : Nat} {b : Branch K (Tree K V h)} {i : Nat} (c c' : Tree K V h) (hci : b.children[i]? = some c)
    {D I : List (Obj K V)} (hc : (slotsOf h c' ++ D).Perm (slotsOf h c ++ I)) :
    (slotsOf (h+1) (b.replace1 i c' : Tree K V (h+1)) ++ D).Perm (slotsOf (h+1) (b : Tree K V (h+1)) ++ I) := by
  rw [slotsOf_succ h (b.replace1 i c'), Branch.flatMap_replace1]
  exact slotsOf_under b i c hci hc

theorem slotsOf_split_ins {h : Nat} (b : Branch K (Tree K V h)) (i p q : Nat) (c l r : Tree K V h) (sep : K) (hci : b.children[i]? = some c) :
    (slotsOf (h+1) (({ b with keys := insertAt b.keys p sep, children := insertAt (setAt b.children i l) q r } : Branch K (Tree K V h)) : Tree K V (h+1)) ++
        slotsOf h c).Perm
      (slotsOf (h+1) (b : Tree K V (h+1)) ++ (slotsOf h l ++ slotsOf h r ++ [Obj.key sep])) := by
  have hc := (perm_split1 b.children i q l r c hci).flatMap_right (slotsOf h)
  rw [List.flatMap_cons, List.flatMap_cons, List.flatMap_cons, ← List.append_assoc] at hc
  -- the separator is acquired by the keys and listed last in `InsRes.slots`
  exact (perm_add (O := []) (I := [Obj.key sep]) ((perm_insertAt b.keys p sep).map Obj.key) hc).trans (List.perm_append_comm.append_left _)

theorem insertLeaf_refs (cap : Nat) (hcap : 4 ≤ cap) (l : Leaf K V) (k : K) (v : V) (nid : Nat) (res : InsRes K V 0) (ev : Evs K V)
    (hl : l.keys.length = l.vals.length) (hsz : l.keys.length ≤ cap)
    (he : insertLeaf Cfg.repaired cap l k v nid = .ok (res, ev)) :
    (res.slots ++ ev.dec).Perm (slotsOf 0 (l : Tree K V 0) ++ ev.inc) := by
  -- the model's cases; the read past the values is no `.ok`, and whether the key was found plays no part in the balance
  revert he
  fun_cases insertLeaf Cfg.repaired cap l k v nid with
  | case1 => intro he; cases he
  | case2 pos _ _ old hv => intro he; cases he; exact slotsOf_leaf_set l v old hv
  | case3 pos =>
    fun_cases insertLeafAbsent Cfg.repaired cap l k v nid pos with
    | case1 hfull =>
      obtain ⟨sep, _, hs⟩ := splitLeaf_eq Cfg.repaired cap hcap l k v nid pos hl (Nat.le_antisymm hsz hfull)
      rw [hs]; intro he; cases he
      -- insert, then cut; the separator's copy is acquired besides
      have := (((slotsOf_leaf_cut _ (cap / 2) l.id nid nid l.next).append_right []).trans
        (slotsOf_leaf_put l pos pos k v)).append_right [Obj.key (V := V) sep]
      simpa [InsRes.slots, Cfg.repaired, List.append_assoc] using this
    | case2 => intro he; cases he; exact slotsOf_leaf_put l _ _ k v

/-- `node_insert_branch` (repaired) performs no reference-count operation: the separator's reference and every moved key
    keep their single owner -/
theorem insertBranch_refs (cap h : Nat) (b : Branch K (Tree K V h)) (ci : Nat) (c l r : Tree K V h) (sep : K)
    (q : Branch K (Tree K V h) ⊕ (Branch K (Tree K V h) × Branch K (Tree K V h) × K)) (ev : Evs K V)
    (hci : b.children[ci]? = some c) (hlen : b.children.length = b.keys.length + 1) (hsz : b.keys.length ≤ cap)
    (he : insertBranch (V := V) Cfg.repaired cap b ci l r sep = .ok (q, ev)) :
    ev.inc = [] ∧ ev.dec = [] ∧
    (match q with
      | .inl b' => slotsOf (h+1) (b' : Tree K V (h+1))
      | .inr (bl, br, pk) => slotsOf (h+1) (bl : Tree K V (h+1)) ++ slotsOf (h+1) (br : Tree K V (h+1)) ++ [Obj.key (V := V) pk]).Perm
      (b.keys.map (Obj.key (V := V)) ++ ((b.children.take ci).flatMap (slotsOf h) ++ (slotsOf h l ++ slotsOf h r ++ [Obj.key (V := V) sep]) ++
        (b.children.drop (ci+1)).flatMap (slotsOf h))) := by
  -- `c` goes out, the halves and the separator (`X`) come in: `b' ++ c ~ b ++ X`
  have hsplit := slotsOf_split_ins b ci (lowerBound b.keys sep) (lowerBound b.keys sep + 1) c l r sep hci
  -- `b` with `X` in the place of `c`, and `c` beside it, is as much: `b[X] ++ c ~ b ++ X`
  have hplace := slotsOf_under b ci c hci (X := slotsOf h l ++ slotsOf h r ++ [Obj.key sep]) (D := slotsOf h c) List.perm_append_comm
  -- so `c` cancels: `b' ~ b[X]`
  have hins := (List.perm_append_right_iff _).1 (hsplit.trans hplace.symm)
  by_cases hfull : b.keys.length < cap
  · rw [insertBranch_of_lt _ _ _ _ _ _ _ hfull] at he
    cases he
    exact ⟨rfl, rfl, hins⟩
  · obtain ⟨pk, hpk, he'⟩ := insertBranch_of_full (V := V) Cfg.repaired cap b ci l r sep (Nat.le_antisymm hsz (Nat.le_of_not_lt hfull)) hlen (lt_of_getElem?_eq_some hci)
    rw [he'] at he
    cases he
    exact ⟨rfl, rfl, (slotsOf_branch_cut (cap / 2) pk hpk).trans hins⟩

theorem insertRec_refs (cap : Nat) (hcap : 4 ≤ cap) :
    ∀ (h : Nat) (t : Tree K V h) (lo hi : Option Int) (k : K) (v : V) (nid : Nat) (res : InsRes K V h) (ev : Evs K V) (nid' : Nat),
      Ordered h t lo hi → CSized cap h t → insertRec Cfg.repaired cap h t k v nid = .ok (res, ev, nid') →
      (res.slots ++ ev.dec).Perm (slotsOf h t ++ ev.inc) := by
  intro h t lo hi k v nid res ev nid' ho hsz he
  fun_induction insertRec Cfg.repaired cap h t k v nid generalizing lo hi ev nid' with
  | case1 k v nid l =>
    obtain ⟨r, hr, he⟩ := Res.map_eq_ok he
    cases he
    exact insertLeaf_refs cap hcap l k v nid r.1 r.2 ho.leaf_lens hsz hr
  | case2 => cases he
  | case3 h k v nid c b ci hci ih =>
    obtain ⟨⟨cres, cev, nid1⟩, hr, he⟩ := Res.bind_eq_ok he
    have hih := ih _ _ cres cev nid1 (ho.child hci) (hsz.children _ (List.mem_of_getElem? hci)) hr
    cases cres with
    | updated c' | inserted c' => cases he; exact slotsOf_replace1 c c' hci hih
    | split l r sep =>
      obtain ⟨⟨q, qev⟩, hq, he⟩ := Res.map_eq_ok he
      obtain ⟨e1, e2, hb⟩ := insertBranch_refs cap h b _ c l r sep q qev hci ho.arity hsz.keys_le hq
      have := (hb.append_right cev.dec).trans (slotsOf_under b _ c hci hih)
      cases q with
      | inl b' | inr p => cases he; simpa [Evs.add, e1, e2, InsRes.slots] using this

/-- `__setitem__` (repaired): every reference taken ends up in exactly one slot, the displaced value is released -/
theorem setitem_refs (s s' : CState K V) (k : K) (v : V) (ev : Evs K V) (hi : CInv s)
    (he : setitem Cfg.repaired s k v = .ok (s', ev)) : (slots s' ++ ev.dec).Perm (slots s ++ ev.inc) := by
  obtain ⟨⟨res, rev, nid⟩, hr, he⟩ := Res.map_eq_ok he
  have := insertRec_refs s.cap hi.cap4 s.height s.root none none k v s.nextId res rev nid hi.ord hi.sz hr
  cases res with
  | updated t | inserted t => cases he; exact this
  | split l r sep =>
    cases he
    refine List.Perm.trans (List.Perm.append_right _ ?_) this
    -- the new root holds the separator in front of the two halves
    show ([sep].map (Obj.key (V := V)) ++ [l, r].flatMap (slotsOf s.height)).Perm (slotsOf s.height l ++ slotsOf s.height r ++ [Obj.key sep])
    simpa using List.perm_append_comm (l₁ := [Obj.key (V := V) sep]) (l₂ := slotsOf s.height l ++ slotsOf s.height r)

theorem deleteRec_refs : ∀ (h : Nat) (t t' : Tree K V h) (k : K) (ev : Evs K V),
    deleteRec h t k = .ok (some (t', ev)) → (slotsOf h t' ++ ev.dec).Perm (slotsOf h t ++ ev.inc) := by
  intro h t t' k ev he
  fun_induction deleteRec h t k generalizing ev with
  | case3 k k' _ v l pos hk hv => cases he; exact slotsOf_leaf_remove l k' v hk hv
  | case6 h k c b ci hci ih =>
    obtain ⟨r, hr, he⟩ := Res.map_eq_ok he
    cases r with
    | none => cases he
    | some p => cases he; exact slotsOf_replace1 c p.1 hci (ih p.1 p.2 hr)
  | _ => cases he

theorem delitem_refs (s s' : CState K V) (k : K) (ev : Evs K V) (he : delitem s k = .ok (some (s', ev))) :
    (slots s' ++ ev.dec).Perm (slots s ++ ev.inc) := by
  obtain ⟨r, hr, he⟩ := Res.map_eq_ok he
  cases r with
  | none => cases he
  | some p => cases he; exact deleteRec_refs s.height s.root p.1 k p.2 hr

theorem getitem_refs (s : CState K V) (k : K) (r : Option V) (ev : Evs K V) (he : getitem s k = .ok (r, ev)) :
    ev.dec = [] ∧ ev.inc = r.toList.map (Obj.val (K := K)) := by
  obtain ⟨q, _, he⟩ := Res.map_eq_ok he
  rcases q with _ | p <;> cases he <;> exact ⟨rfl, rfl⟩

theorem contains_refs (s : CState K V) (k : K) (b : Bool) (ev : Evs K V) (he : contains s k = .ok (b, ev)) :
    ev.inc = ev.dec := by
  obtain ⟨q, _, he⟩ := Res.map_eq_ok he
  rcases q with _ | p <;> cases he <;> rfl

/-- restates the definition of `dealloc`; that the destructor as written, in two passes, has this effect is
    `deallocTwoPass_eq_dealloc` (C/Dealloc.lean) -/
theorem dealloc_releases_all (s : CState K V) : (dealloc s).dec = slots s ∧ (dealloc s).inc = [] := ⟨rfl, rfl⟩

end BPT.C
