/- List facts missing from Lean's core library, in this order: indices in `?`-form, a list cut at an index, its ends,
   `takeWhile` and `filter`, `flatMap` and sums, counting and duplicate-free lists, `zip`, permutations as balances.
   None mentions the tree; `sibling_left/right` and `perm_frame` are shaped after one expression of the models.  Import-free. -/
namespace BPT

variable {α : Type}

theorem lt_of_getElem?_eq_some {l : List α} {i : Nat} {x : α} (h : l[i]? = some x) : i < l.length :=
  (List.getElem?_eq_some_iff.1 h).1

theorem exists_getElem? {l : List α} {i : Nat} (h : i < l.length) : ∃ x, l[i]? = some x :=
  ⟨l[i], List.getElem?_eq_getElem h⟩

theorem mem_take_iff_getElem? {l : List α} {i : Nat} {x : α} : x ∈ l.take i ↔ ∃ j, j < i ∧ l[j]? = some x := by
  simp only [List.mem_take_iff_getElem, List.getElem?_eq_some_iff, Nat.lt_min]
  exact ⟨fun ⟨j, h, e⟩ => ⟨j, h.1, h.2, e⟩, fun ⟨j, h1, h2, e⟩ => ⟨j, ⟨h1, h2⟩, e⟩⟩

theorem mem_drop_iff_getElem? {l : List α} {i : Nat} {x : α} : x ∈ l.drop i ↔ ∃ j, l[i + j]? = some x := by
  rw [List.mem_iff_getElem?]
  simp only [List.getElem?_drop]

theorem forall_getElem?_cons (a : α) (l : List α) (P : Nat → α → Prop) :
    (∀ i x, (a :: l)[i]? = some x → P i x) ↔ P 0 a ∧ ∀ i x, l[i]? = some x → P (i+1) x :=
  ⟨fun h => ⟨h 0 a rfl, fun i x hx => h (i+1) x hx⟩, fun ⟨h0, hs⟩ i x hx => by
    cases i with
    | zero => cases hx; exact h0
    | succ i => exact hs i x hx⟩

/-- the sibling lookups of `rebalance_child` and `_handle_underflow` as the models write them: `l[i]?` makes the bounds tests redundant -/
theorem sibling_left (l : List α) (j : Nat) : (if j + 1 > 0 then l[j + 1 - 1]? else none) = l[j]? :=
  if_pos (Nat.succ_pos j)
theorem sibling_right (l : List α) (i : Nat) : (if i + 1 < l.length then l[i+1]? else none) = l[i+1]? := by
  split
  · rfl
  · next h => exact (List.getElem?_eq_none (Nat.le_of_not_lt h)).symm

theorem eq_take_cons_drop (l : List α) (i : Nat) (x : α) (h : l[i]? = some x) :
    l = l.take i ++ x :: l.drop (i+1) := by
  obtain ⟨hi, rfl⟩ := List.getElem?_eq_some_iff.1 h
  rw [List.getElem_cons_drop, List.take_append_drop]

theorem eq_take_cons_cons_drop (l : List α) (j : Nat) (x y : α) (hx : l[j]? = some x) (hy : l[j+1]? = some y) :
    l = l.take j ++ x :: y :: l.drop (j+2) := by
  have hy' : (l.drop (j+1))[0]? = some y := by rw [List.getElem?_drop]; exact hy
  have h2 := eq_take_cons_drop (l.drop (j+1)) 0 y hy'
  rw [List.take_zero, List.nil_append, List.drop_drop] at h2
  have h1 := eq_take_cons_drop l j x hx
  rwa [h2] at h1

theorem take_take_drop {l : List α} {i n : Nat} : l.take i ++ (l.drop i).take n ++ l.drop (i+n) = l := by
  rw [List.append_assoc, ← List.drop_drop, List.take_append_drop, List.take_append_drop]

theorem flatMap_split {β : Type} (f : α → List β) {l : List α} {i : Nat} {x : α} (h : l[i]? = some x) :
    l.flatMap f = (l.take i).flatMap f ++ f x ++ (l.drop (i+1)).flatMap f := by
  conv => lhs; rw [eq_take_cons_drop l i x h]
  simp [List.flatMap_append]

theorem append_ctx {L A X B : List α} (P Q : List α) (h : L = A ++ X ++ B) : P ++ L ++ Q = (P ++ A) ++ X ++ (B ++ Q) := by
  rw [h]; simp only [List.append_assoc]

theorem exists_cons_cons {l : List α} (h : 2 ≤ l.length) : ∃ a b t, l = a :: b :: t := by
  match l, h with
  | a :: b :: t, _ => exact ⟨a, b, t, rfl⟩

theorem forall_mem_two {P : α → Prop} {a b : α} (ha : P a) (hb : P b) : ∀ x ∈ [a, b], P x :=
  fun _ hx => (List.mem_cons.1 hx).elim (· ▸ ha) fun hx => List.mem_singleton.1 hx ▸ hb

theorem forall_mem_of_append_eq {P : α → Prop} {l₁ l₂ l₁' l₂' : List α} (h : l₁' ++ l₂' = l₁ ++ l₂)
    (h1 : ∀ a ∈ l₁, P a) (h2 : ∀ a ∈ l₂, P a) : (∀ a ∈ l₁', P a) ∧ ∀ a ∈ l₂', P a := by
  have hall : ∀ a ∈ l₁' ++ l₂', P a := fun a ha => (List.mem_append.1 (h ▸ ha)).elim (h1 a) (h2 a)
  exact ⟨fun a ha => hall a (List.mem_append_left _ ha), fun a ha => hall a (List.mem_append_right _ ha)⟩

theorem dropLast_append_getLast? {l : List α} {x : α} (h : l.getLast? = some x) : l.dropLast ++ [x] = l := by
  obtain ⟨ys, rfl⟩ := List.getLast?_eq_some_iff.1 h
  rw [List.dropLast_concat]

theorem exists_getLast? (l : List α) (h : 0 < l.length) : ∃ x, l.getLast? = some x ∧ l.dropLast ++ [x] = l := by
  have hne : l ≠ [] := by intro e; rw [e] at h; exact Nat.lt_irrefl 0 h
  exact ⟨l.getLast hne, List.getLast?_eq_some_getLast hne, List.dropLast_concat_getLast hne⟩

theorem getLast?_append_ne_nil {A B : List α} (h : B ≠ []) : (A ++ B).getLast? = B.getLast? := by
  rw [List.getLast?_append]
  cases hb : B.getLast? with
  | none => simp [List.getLast?_eq_none_iff] at hb; exact absurd hb h
  | some x => simp

theorem takeWhile_length_le {p : α → Bool} (L : List α) : (L.takeWhile p).length ≤ L.length :=
  (List.takeWhile_sublist p).length_le

theorem take_length_takeWhile (p : α → Bool) (l : List α) : l.take (l.takeWhile p).length = l.takeWhile p := by
  have := List.take_left' (l₁ := l.takeWhile p) (l₂ := l.dropWhile p) rfl
  rwa [List.takeWhile_append_dropWhile] at this

theorem drop_length_takeWhile (p : α → Bool) (l : List α) : l.drop (l.takeWhile p).length = l.dropWhile p := by
  have := List.drop_left' (l₁ := l.takeWhile p) (l₂ := l.dropWhile p) rfl
  rwa [List.takeWhile_append_dropWhile] at this

theorem dropWhile_false_of_pairwise {R : α → α → Prop} {p : α → Bool} {l : List α} (hs : l.Pairwise R)
    (hp : ∀ x y, R x y → p y = true → p x = true) : ∀ x ∈ l.dropWhile p, p x = false := by
  induction l with
  | nil => intro x hx; cases hx
  | cons a l ih =>
    have hs' := List.pairwise_cons.1 hs
    cases ha : p a with
    | true => rw [List.dropWhile_cons_of_pos ha]; exact ih hs'.2
    | false =>
      rw [List.dropWhile_cons_of_neg (by rw [ha]; exact Bool.false_ne_true)]
      rintro x (_ | ⟨_, hx⟩)
      · exact ha
      · exact Bool.eq_false_iff.2 fun hpx => by rw [hp a x (hs'.1 x hx) hpx] at ha; cases ha

theorem filter_append_eq_right (p : α → Bool) (A R : List α) (hA : ∀ x ∈ A, p x = false) (hR : ∀ x ∈ R, p x = true) :
    (A ++ R).filter p = R := by
  rw [List.filter_append, List.filter_eq_nil_iff.2 fun x hx => by simp [hA x hx], List.filter_eq_self.2 hR, List.nil_append]

theorem flatMap_congr {β : Type} {l : List α} {g g' : α → List β} (h : ∀ a ∈ l, g a = g' a) : l.flatMap g = l.flatMap g' := by
  rw [List.flatMap_def, List.flatMap_def, List.map_congr_left h]

theorem length_le_flatMap {β : Type} (g : α → List β) {l : List α} {a : α} (h : a ∈ l) : (g a).length ≤ (l.flatMap g).length :=
  List.flatMap_def ▸ (List.sublist_flatten_of_mem (List.mem_map_of_mem h)).length_le

theorem sum_flatMap (f : α → List Nat) (L : List α) : (L.flatMap f).sum = (L.map (fun a => (f a).sum)).sum := by
  induction L with
  | nil => rfl
  | cons a L ih => simp [List.flatMap_cons, List.sum_append, ih]

theorem sum_le_sum_pointwise (f g : α → Nat) (L : List α) (h : ∀ x ∈ L, f x ≤ g x) :
    (L.map f).sum ≤ (L.map g).sum := by
  induction L with
  | nil => simp
  | cons a L ih =>
    have h1 := h a List.mem_cons_self
    have h2 := ih (fun x hx => h x (List.mem_cons_of_mem _ hx))
    simp only [List.map_cons, List.sum_cons]; omega

theorem length_mul_le_sum (f : α → Nat) (m : Nat) (L : List α) (h : ∀ c ∈ L, m ≤ f c) : L.length * m ≤ (L.map f).sum := by
  have := sum_le_sum_pointwise (fun _ => m) f L h
  rwa [List.map_const', List.sum_replicate_nat] at this

theorem sum_set_zero (w : List Nat) (a : Nat) : (w.set a 0).sum + w[a]?.getD 0 = w.sum := by
  induction w generalizing a with
  | nil => rfl
  | cons x w ih =>
    cases a with
    | zero => simp [Nat.add_comm]
    | succ a =>
      have := ih a
      simp only [List.set_cons_succ, List.sum_cons, List.getElem?_cons_succ]
      omega

theorem sum_getD_le_sum : ∀ (A w : List Nat), A.Nodup → (A.map (fun i => w[i]?.getD 0)).sum ≤ w.sum := by
  intro A
  induction A with
  | nil => intro w _; simp
  | cons a A ih =>
    intro w hnd
    have hnd' := List.nodup_cons.1 hnd
    -- the other indices see the same numbers once the one at `a` is taken out
    have hrest : A.map (fun i => w[i]?.getD 0) = A.map (fun i => (w.set a 0)[i]?.getD 0) :=
      List.map_congr_left fun i hi => by
        have hne : a ≠ i := fun he => hnd'.1 (he ▸ hi)
        rw [List.getElem?_set_ne hne]
    have := ih (w.set a 0) hnd'.2
    have := sum_set_zero w a
    simp only [List.map_cons, List.sum_cons, hrest]
    omega

theorem count_true_map (p : α → Bool) (l : List α) : (l.map p).count true = (l.filter p).length := by
  induction l with
  | nil => rfl
  | cons a l ih => cases h : p a <;> simp [h, ih]

theorem filter_mem_length {ids : List Nat} {n : Nat} (hnd : ids.Nodup) (hlt : ∀ x ∈ ids, x < n) :
    ((List.range n).filter (fun i => decide (i ∈ ids))).length = ids.length := by
  apply List.Perm.length_eq
  rw [List.perm_ext_iff_of_nodup (List.Nodup.sublist List.filter_sublist List.nodup_range) hnd]
  intro a
  simp only [List.mem_filter, List.mem_range, decide_eq_true_eq]
  constructor
  · exact fun h => h.2
  · exact fun h => ⟨hlt a h, h⟩

theorem subset_of_nodup_subset_of_length_le [DecidableEq α] (A B : List α) (hnd : A.Nodup) (hsub : ∀ a ∈ A, a ∈ B)
    (hlen : B.length ≤ A.length) : ∀ b ∈ B, b ∈ A := by
  intro b hb
  refine Decidable.byContradiction fun hn => ?_
  have := (List.nodup_cons.2 ⟨hn, hnd⟩).length_le_of_subset (List.cons_subset.2 ⟨hb, hsub⟩)
  rw [List.length_cons] at this; omega

theorem find?_of_nodup {β : Type} [BEq β] [LawfulBEq β] (f : α → β) (l : List α) (x : α) (hx : x ∈ l) (hnd : (l.map f).Nodup) :
    l.find? (fun y => f y == f x) = some x := by
  induction l with
  | nil => cases hx
  | cons a as ih =>
    simp only [List.map_cons, List.nodup_cons] at hnd
    rcases List.mem_cons.1 hx with rfl | hx'
    · simp
    · have hne : f a ≠ f x := by
        intro he; exact hnd.1 (he ▸ List.mem_map_of_mem hx')
      have : (f a == f x) = false := by simp [hne]
      rw [List.find?_cons, this]
      exact ih hx' hnd.2

theorem find?_none_of_not_mem {β : Type} [BEq β] [LawfulBEq β] (f : α → β) {l : List α} (i : β) (h : i ∉ l.map f) :
    l.find? (fun y => f y == i) = none := by
  rw [List.find?_eq_none]
  intro y hy
  have : f y ≠ i := by intro he; exact h (he ▸ List.mem_map_of_mem hy)
  simp [this]

theorem eq_of_map_eq_of_nodup {β : Type} [BEq β] [LawfulBEq β] (f : α → β) {l : List α} (hnd : (l.map f).Nodup) (x y : α)
    (hx : x ∈ l) (hy : y ∈ l) (h : f x = f y) : x = y := by
  have h1 := find?_of_nodup f l x hx hnd
  rw [h, find?_of_nodup f l y hy hnd] at h1
  exact (Option.some.inj h1).symm

theorem find?_isSome_eq_decide_mem {β : Type} [BEq β] [LawfulBEq β] (f : α → β) (ls : List α) (i : β) :
    (ls.find? (fun l => f l == i)).isSome = decide (i ∈ ls.map f) := by
  rw [Bool.eq_iff_iff, List.find?_isSome, decide_eq_true_iff, List.mem_map]
  exact ⟨fun ⟨x, hx, h⟩ => ⟨x, hx, eq_of_beq h⟩, fun ⟨x, hx, h⟩ => ⟨x, hx, beq_iff_eq.2 h⟩⟩

theorem take_zip {β : Type} (l : List α) (r : List β) (i : Nat) : (l.zip r).take i = (l.take i).zip (r.take i) := by
  simp only [List.zip, List.take_zipWith]

theorem drop_zip {β : Type} (l : List α) (r : List β) (i : Nat) : (l.zip r).drop i = (l.drop i).zip (r.drop i) := by
  simp only [List.zip, List.drop_zipWith]

theorem zip_take_append_drop {β : Type} {l : List α} {r : List β} {i : Nat} :
    (l.take i).zip (r.take i) ++ (l.drop i).zip (r.drop i) = l.zip r := by
  rw [← take_zip, ← drop_zip, List.take_append_drop]

theorem zip_drop_cons {β : Type} {ks : List α} {vs : List β} {i : Nat} (hk : i < ks.length) (hv : i < vs.length) :
    (ks.zip vs).drop i = (ks[i], vs[i]) :: (ks.zip vs).drop (i+1) := by
  rw [List.drop_eq_getElem_cons (by rw [List.length_zip]; exact Nat.lt_min.2 ⟨hk, hv⟩), List.getElem_zip]

theorem perm_swap4 (a b c d : List α) : ((a ++ b) ++ (c ++ d)).Perm ((a ++ c) ++ (b ++ d)) := by
  rw [List.append_assoc, List.append_assoc]
  exact (List.perm_append_comm_assoc b c d).append_left a

/-- The summands of two balances `after ++ out ~ before ++ in` are taken with `out` and `in` in front: that is how
    `List.Perm.map` and `List.Perm.flatMap_right` hand on a fact about `x :: l`, with no rewriting. -/
theorem perm_add {A A' B B' O O' I I' : List α} (h : (O ++ A').Perm (I ++ A)) (h' : (O' ++ B').Perm (I' ++ B)) :
    ((A' ++ B') ++ (O ++ O')).Perm ((A ++ B) ++ (I ++ I')) :=
  (List.perm_append_comm.trans (perm_swap4 O O' A' B')).trans ((h.append h').trans ((perm_swap4 I A I' B).trans List.perm_append_comm))

/-- two contexts `P`, `L` to the left: a branch has its own slots, then those of the children before the one that changes -/
theorem perm_frame {X Y D I : List α} {P L R : List α} (h : (X ++ D).Perm (Y ++ I)) :
    ((P ++ (L ++ X ++ R)) ++ D).Perm ((P ++ (L ++ Y ++ R)) ++ I) := by
  simp only [List.append_assoc]
  -- `R` steps aside so that `h` applies, and back
  exact (((List.perm_append_comm_assoc X R D).trans ((h.append_left R).trans (List.perm_append_comm_assoc R Y I))).append_left L).append_left P

end BPT
