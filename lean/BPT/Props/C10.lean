import BPT.Props.C04
import BPT.Rust.CheckedSpec
/-
  C10 — Rust checked/bulk API and constructors agree with the basic operations.

  `try_get`, `get_item`, `remove_item` are `get`/`remove` followed by `ok_or(KeyNotFound)`; `try_insert`,
  `try_remove`, `batch_insert`, `validate_for_operation` additionally run `check_invariants_detailed`.  The
  wrappers are model functions (Rust/Checked.lean, tied to the source text by `Tie.rust_src_*_eq`); the driver
  runs those same functions against the implementation call by call.
-/
namespace BPT.Props.C10
open BPT BPT.Rust

variable {K V : Type} [Keyed K]

/-- `new(c)` / `empty(c)` fail with InvalidCapacity exactly when `c < 4`, for every `c` -/
theorem new_rejects_iff (c : Nat) : (new c : Option (RState K V)) = none ↔ c < 4 :=
  ⟨fun h => Nat.lt_of_not_le fun hc => (nomatch (new_of_le c hc).symm.trans h), (new_spec c).1⟩

/-- otherwise they produce an empty, valid map of that capacity -/
theorem new_ok (c : Nat) (hc : 4 ≤ c) :
    ∃ s, (new c : Option (RState K V)) = some s ∧ SInv s ∧ abs s = [] ∧ s.cap = c ∧ len s = 0 :=
  have hi := inv_fresh (K := K) (V := V) c hc
  ⟨freshState c, new_of_le c hc, sinv_fresh c hc, hi.2, rfl, by rw [len_spec _ hi.1, hi.2]; rfl⟩

/-- `Default` / `with_default_capacity` always succeed (the default capacity is accepted) -/
theorem default_ok : ∃ s, (new defaultCapacity : Option (RState K V)) = some s ∧ SInv s :=
  let ⟨s, he, hs, _⟩ := new_ok (K := K) (V := V) defaultCapacity (by decide); ⟨s, he, hs⟩

/-- `get(k)` finds nothing exactly when the key is absent -/
theorem try_get_spec (s : RState K V) (k : K) (hi : Inv s) :
    ((get s k).map (·.2)).isNone ↔ SMap.lookup (abs s) k = none := by
  rw [get_spec s k hi]; cases SMap.lookup (abs s) k <;> simp

/-- `get_many` written directly over `get` (the model's transcription: `getManyE`) -/
def getMany (s : RState K V) : List K → Option (List V)
  | [] => some []
  | k :: ks => match get s k with
    | none => none
    | some p => (getMany s ks).map (p.2 :: ·)

theorem getMany_eq (s : RState K V) (ks : List K) :
    getMany s ks = (match getManyE s ks with | .ok vs => some vs | .error _ => none) := by
  induction ks with
  | nil => rfl
  | cons k ks ih =>
    rw [getMany, getManyE, tryGet, ih]
    cases get s k with
    | none => rfl
    | some p => cases getManyE s ks <;> rfl

/-- `getMany` fails iff some requested key is absent, otherwise one value per key in request order -/
theorem get_many_spec (s : RState K V) (ks : List K) (hi : Inv s) :
    (getMany s ks = none ↔ ∃ k ∈ ks, SMap.lookup (abs s) k = none) ∧
    (∀ vs, getMany s ks = some vs → vs = ks.filterMap (fun k => (SMap.lookup (abs s) k).map (·.2)) ∧ vs.length = ks.length) := by
  obtain ⟨hfail, hok⟩ := getManyE_spec s hi ks
  rw [getMany_eq]
  by_cases h : ∃ k ∈ ks, SMap.lookup (abs s) k = none
  · rw [hfail h]; exact ⟨⟨fun _ => h, fun _ => rfl⟩, nofun⟩
  · obtain ⟨e, hlen⟩ := hok fun k hk hn => h ⟨k, hk, hn⟩
    rw [e]
    exact ⟨⟨nofun, fun h' => absurd h' h⟩, fun vs hvs => by cases hvs; exact ⟨rfl, hlen⟩⟩

/-- a list of inserts, run one by one, refines the abstract map -/
theorem batch_insert_eq_fold (s : RState K V) (items : List (K × V)) (hi : Inv s) :
    C01.run s (items.map fun p => C01.Op.insert p.1 p.2) =
      some (C01.specRun (abs s) (items.map fun p => C01.Op.insert p.1 p.2)) :=
  C01.run_refines _ s hi

/-- `check_invariants_detailed`, which the checked calls run, and `check_invariants` accept every valid state -/
theorem validate_for_operation_ok (s : RState K V) (hs : SInv s) (hsm : Small s) :
    (view s).checkDetailed Cfg.repaired = .ok none ∧ (view s).checkInvariants Cfg.repaired = .ok true :=
  (C04.validators_accept s hs hsm).symm

/-- `try_insert` has exactly the effect and result of `insert`.  The second clause is empty: on a valid state `insert`
    always returns. -/
theorem try_insert_eq_insert (s : RState K V) (k : K) (v : V) (hs : SInv s) (hsm : Small s) :
    (∀ s' old, insert s k v = some (s', old) → Small s' → tryInsert Cfg.repaired s k v = some (s', .ok old)) ∧
    (insert s k v = none → tryInsert Cfg.repaired s k v = none) :=
  ⟨fun s' old he hsm' => tryInsert_spec s s' k v old hs hsm he hsm',
    fun he => let ⟨_, _, h, _⟩ := insert_spec s k v hs.inv; nomatch he.symm.trans h⟩

/-- `try_remove` and `remove_item` have exactly the effect of `remove`; KeyNotFound exactly when the key is absent -/
theorem try_remove_eq_remove (s : RState K V) (k : K) (hs : SInv s) (hsm : Small s) :
    ∃ s' r, remove s k = some (s', r) ∧ r = (SMap.lookup (abs s) k).map (·.2) ∧
      tryRemove Cfg.repaired s k = some (s', okOrKeyNotFound r) ∧ removeItem s k = some (s', okOrKeyNotFound r) ∧
      (okOrKeyNotFound r = .error .keyNotFound ↔ SMap.lookup (abs s) k = none) ∧ abs s' = SMap.erase (abs s) k := by
  obtain ⟨s', old, he, _, habs, hold, _⟩ := remove_spec s k hs.inv
  exact ⟨s', old, he, hold, tryRemove_spec s s' k old hs hsm he, removeItem_spec s s' k old he,
    hold ▸ okOr_keyNotFound_iff, habs⟩

/-- `try_get` / `get_item`: the stored value, or KeyNotFound exactly when absent -/
theorem try_get_eq_get (s : RState K V) (k : K) (hi : Inv s) :
    tryGet s k = okOrKeyNotFound ((SMap.lookup (abs s) k).map (·.2)) ∧
    (tryGet s k = .error .keyNotFound ↔ SMap.lookup (abs s) k = none) := by
  rw [tryGet_spec s k hi]
  exact ⟨rfl, okOr_keyNotFound_iff⟩

/-- `get_many` (the model's `getManyE`): as `get_many_spec` -/
theorem get_many_model_spec (s : RState K V) (ks : List K) (hi : Inv s) :
    ((∃ k ∈ ks, SMap.lookup (abs s) k = none) → getManyE s ks = .error .keyNotFound) ∧
    ((∀ k ∈ ks, SMap.lookup (abs s) k ≠ none) →
      getManyE s ks = .ok (ks.filterMap (fun k => (SMap.lookup (abs s) k).map (·.2))) ∧
      (ks.filterMap (fun k => (SMap.lookup (abs s) k).map (·.2))).length = ks.length) :=
  getManyE_spec s hi ks

/-- `batch_insert` = the same inserts one by one, results in order, never an error -/
theorem batch_insert_eq_inserts (s : RState K V) (items : List (K × V)) (hs : SInv s) (hsm : SmallRun s items) :
    batchInsert Cfg.repaired s items = (insertAll s items).map fun r => (r.1, .ok r.2) :=
  batchInsert_spec s items hs hsm

/-- on valid states the checked calls never report an integrity error -/
theorem never_integrity_error (s : RState K V) (hs : SInv s) (hsm : Small s) :
    validateForOperation Cfg.repaired s = .ok () ∧ checkedEntry Cfg.repaired (view s) = none :=
  ⟨validateForOperation_ok s hs hsm, checkedEntry_view s hs hsm⟩

/-- the hypotheses of the wrapper theorems are met -/
example : SInv (freshState 4 : RState Int Nat) ∧ SmallRun (freshState 4 : RState Int Nat) [(1, 10)] := by
  refine ⟨sinv_fresh 4 (by decide), by unfold Small; decide, ?_⟩
  intro s' old he
  have hd : (match insert (freshState 4 : RState Int Nat) 1 10 with
      | some p => decide (p.1.al.leaf.len ≤ nullId ∧ p.1.al.branch.len ≤ nullId)
      | none => true) = true := by decide +kernel
  rw [he] at hd
  simpa [SmallRun, Small] using hd

end BPT.Props.C10
