import BPT.Py.Bulk
import BPT.Py.ApiSpec
/-
  C09 — the pure-Python tree keeps the B+ tree invariants after every mutation.  `PInv` (BPT/Py/Inv.lean):
  `ord`: node keys strictly ascending, a branch has one more child than keys, the keys of child i lie in
  [separator i-1, separator i); `sz`: no leaf above `capacity` keys, no branch above `capacity - 1` (it splits
  on reaching `capacity`), every non-root node at least `(capacity-1)//2`, a branch root ≥ 1 key;
  `chain`/`head`: the `next` references of the leaves, in tree order, chain from `self.leaves` to `None`;
  `nodup`/`fresh`: leaf objects are pairwise distinct (model bookkeeping).  "All leaves at the same depth"
  is intrinsic to the height-indexed tree type.  D8 is repaired (`TiePy.py_empty_shortcut_leaf_only_eq`).
-/
namespace BPT.Props.C09
open BPT BPT.Py Tree
open BPT.Rust (links ChainL firstOf)

variable {K V : Type} [Keyed K]

/-- the structural mutations: assignment, deletion, clear -/
inductive Mut (K V : Type) where
  | set (k : K) (v : V)
  | del (k : K)
  | clear

def applyMut (s : PState K V) : Mut K V → Option (PState K V)
  | .set k v => setitem s k v
  | .del k => (delitem Cfg.repaired s k).map (·.1)
  | .clear => some (clear s)

def specMut (m : List (K × V)) : Mut K V → List (K × V)
  | .set k v => SMap.insert m k v
  | .del k => SMap.erase m k
  | .clear => []

theorem step_inv (s : PState K V) (op : Mut K V) (hi : PInv s) :
    ∃ s', applyMut s op = some s' ∧ PInv s' ∧ abs s' = specMut (abs s) op ∧ s'.cap = s.cap := by
  cases op with
  | set k v => exact setitem_spec s k v hi
  | del k =>
    obtain ⟨s', b, he, h1, h2, _, h4, _⟩ := delitem_spec s k hi
    exact ⟨s', by simp [applyMut, he], h1, h2, h4⟩
  | clear => exact ⟨_, rfl, (clear_spec s hi).1, (clear_spec s hi).2.1, (clear_spec s hi).2.2⟩

/-- **C09**: every state reachable from `BPlusTreeMap(capacity)`, `capacity ≥ 4`, by assignments, deletions
    and `clear` satisfies the invariants, and no call raises -/
theorem reachable_inv (cap : Nat) (hcap : 4 ≤ cap) (ops : List (Mut K V)) :
    ∃ s0 s', (new cap : Option (PState K V)) = some s0 ∧
      ops.foldl (fun acc op => acc.bind fun s => applyMut s op) (some s0) = some s' ∧ PInv s' ∧
      abs s' = ops.foldl specMut [] := by
  obtain ⟨s0, h0, hinv0, habs0, _⟩ := pinv_new (K := K) (V := V) cap hcap
  have hstep : ∀ (s : PState K V) (op : Mut K V), PInv s → ∃ s', applyMut s op = some s' ∧ PInv s' ∧ abs s' = specMut (abs s) op :=
    fun s op hi => let ⟨s', he, h1, h2, _⟩ := step_inv s op hi; ⟨s', he, h1, h2⟩
  obtain ⟨s', h1, h2, h3⟩ := foldl_bind_refines applyMut specMut abs PInv hstep ops s0 hinv0
  exact ⟨s0, s', h0, h1, h2, habs0 ▸ h3⟩

/-- `InvalidCapacityError` exactly for capacities below 4 -/
theorem capacity_guard (cap : Nat) : (new cap : Option (PState K V)) = none ↔ cap < 4 := new_rejects cap

/-- depth of every leaf below a node at depth `d` -/
def leafDepths : (h : Nat) → Tree K V h → Nat → List Nat
  | 0, _, d => [d]
  | h+1, (b : Branch K (Tree K V h)), d => b.children.flatMap (fun c => leafDepths h c (d+1))

theorem all_leaves_same_depth : ∀ (h : Nat) (t : Tree K V h) (d : Nat), ∀ x ∈ leafDepths h t d, x = d + h :=
  leafDepths_eq leafDepths (fun _ _ => rfl) (fun _ _ _ => rfl)

/-- a branch root has at least two children -/
theorem root_branch_two_children (s : PState K V) (hi : PInv s) (h : Nat) (hh : s.height = h + 1) :
    2 ≤ (Branch.children (hh ▸ s.root : Tree K V (h+1))).length := by
  obtain ⟨cap, height, root, head, nextId, cache⟩ := s
  simp only at hh
  subst hh
  exact hi.ord.children_gt_keys (m := 1) hi.sz.1

/-- the node-level clauses, for a branch and each of its children -/
theorem node_clauses (cap h : Nat) (b : Branch K (Tree K V h)) (lo hi : Option Int) (m : Nat)
    (ho : Ordered (h+1) (b : Tree K V (h+1)) lo hi) (hs : PSized cap (h+1) (b : Tree K V (h+1)) m) :
    KSorted b.keys ∧ b.children.length = b.keys.length + 1 ∧ b.keys.length ≤ cap ∧
    (∀ i c, b.children[i]? = some c → Ordered h c (loAt b.keys lo i) (hiAt b.keys hi i) ∧
      (cap - 1) / 2 ≤ BPT.nkeys h c ∧ BPT.nkeys h c ≤ cap) := by
  refine ⟨ho.sorted, ho.arity, by have := hs.2.1; omega, ?_⟩
  intro i c hc
  have hsz := hs.children c (List.mem_of_getElem? hc)
  exact ⟨ho.child hc, (PSized.nkeys cap h c _ hsz).1, (PSized.nkeys cap h c _ hsz).2⟩

/-- consecutive leaves are linked, the last points to `None`, and `self.leaves` is the leftmost leaf -/
theorem chain_is_leaves (s : PState K V) (hi : PInv s) :
    ChainL ((leaves s.height s.root).map Rust.link) noneId ∧
    (leaves s.height s.root).head?.map (·.id) = some s.head := by
  obtain ⟨l, R, hl, hh⟩ := hi.leaves_cons
  exact ⟨hi.chain, by rw [hl, hh]; rfl⟩

/-- **bulk load**: for any item list (sorted or not, keys repeated or not) `from_sorted_items` raises nothing, yields
    a valid tree, and its contents are those of assigning the items one by one to a fresh map -/
theorem from_sorted_eq_incremental (cap : Nat) (hcap : 4 ≤ cap) (its : List (K × V)) :
    ∃ s' s0 sInc, fromSorted cap its = some (some s') ∧ PInv s' ∧ s'.cap = cap ∧
      (new cap : Option (PState K V)) = some s0 ∧ update s0 its = some sInc ∧ PInv sInc ∧ abs s' = abs sInc := by
  obtain ⟨s', h1, h2, h3, h4⟩ := fromSorted_spec (K := K) (V := V) cap hcap its
  obtain ⟨s0, h0, hinv0, habs0, _⟩ := pinv_new (K := K) (V := V) cap hcap
  obtain ⟨sInc, g1, g2, g3, _⟩ := update_spec its s0 hinv0
  exact ⟨s', s0, sInc, h1, h2, h4, h0, g1, g2, by rw [h3, g3, habs0]⟩

/-- `_insert_sorted`, fast path or not, keeps the invariants and the cache condition and acts on the contents
    like an assignment -/
theorem bulk_fast_path_sound (s : PState K V) (k : K) (v : V) (hi : PInv s) (hc : CacheOK s) :
    ∃ s', insertSorted s k v = some s' ∧ PInv s' ∧ CacheOK s' ∧ abs s' = SMap.insert (abs s) k v :=
  let ⟨s', h1, h2, h3, h4, _⟩ := insertSorted_spec s k v hi hc
  ⟨s', h1, h2, h3, h4⟩

namespace Legacy
/-- some non-root branch of the tree has no key -/
def hasEmptyBranch : (h : Nat) → Tree Int Nat h → Bool → Bool
  | 0, _, _ => false
  | h+1, (b : Branch Int (Tree Int Nat h)), isRoot =>
    (!isRoot && b.keys.length == 0) || b.children.any (fun c => hasEmptyBranch h c false)

def runLegacy (cfg : Cfg) (sets : List Int) (dels : List Int) : Option Bool :=
  match (new 4 : Option (PState Int Nat)) with
  | none => none
  | some s0 =>
    match sets.foldl (fun acc k => acc.bind fun s => setitem s k 0) (some s0) with
    | none => none
    | some s1 =>
      match dels.foldl (fun acc k => acc.bind fun s => (delitem cfg s k).map (·.1)) (some s1) with
      | none => none
      | some s2 => some (hasEmptyBranch s2.height s2.root true)

/-- D8 on the pre-repair model (capacity 4): on this history a non-root branch with no key survives;
    the repaired model keeps every branch populated -/
theorem py_empty_branch_survives :
    runLegacy { emptyShortcutLeafOnly := false } (List.range 30 |>.map Int.ofNat)
      [13,15,20,17,29,21,3,28,27,0,16,24,7,18,1,11,23,14,2,19] = some true ∧
    runLegacy Cfg.repaired (List.range 30 |>.map Int.ofNat)
      [13,15,20,17,29,21,3,28,27,0,16,24,7,18,1,11,23,14,2,19] = some false := by
  decide +kernel
end Legacy

/-- non-vacuity: the empty map `BPlusTreeMap(4)` satisfies the invariants -/
example : ∃ s : PState Int Nat, (new 4 : Option (PState Int Nat)) = some s ∧ PInv s := by
  obtain ⟨s, h1, h2, _⟩ := pinv_new (K := Int) (V := Nat) 4 (by omega)
  exact ⟨s, h1, h2⟩

end BPT.Props.C09
