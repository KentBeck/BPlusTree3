import BPT.Rust.Moves
import BPT.Rust.RemoveCases
import BPT.Rust.Sized
/-
  `rebalance_child`: the order in which the Rust code tries the moves of Rust/Moves (left donor, right donor, merge,
  with the left sibling if there is one), at the policy `Occ cap (cap / 2) 0`: `rebalance_short`.  `RebPre`, `RebPost`
  and `rebalance_spec` state the same in the terms of `Sized`, as an instance.
-/
namespace BPT.Rust
open BPT Tree
variable {K V : Type} [Keyed K]

/-- the situation `rebalance` is called in: child `i` is one key short, everything else is fine -/
structure RebPre (cap h : Nat) (b : Branch K (Tree K V h)) (i : Nat) (lo hi : Option Int) : Prop where
  cap4 : 4 ≤ cap
  ord : Ordered (h+1) b lo hi
  nk : 1 ≤ b.keys.length
  idx : i < b.children.length
  sz : ∀ j c, b.children[j]? = some c → Sized cap h c (if j = i then cap / 2 - 1 else cap / 2)
  under : ∀ c, b.children[i]? = some c → nkeys h c = cap / 2 - 1

structure RebPost (cap h : Nat) (b b2 : Branch K (Tree K V h)) (lo hi : Option Int) : Prop where
  ord : Ordered (h+1) b2 lo hi
  list : toList (h+1) b2 = toList (h+1) b
  sz : ∀ c ∈ b2.children, Sized cap h c (cap / 2)
  k1 : b.keys.length ≤ b2.keys.length + 1
  k2 : b2.keys.length ≤ b.keys.length
  id : b2.id = b.id

omit [Keyed K] in
theorem sized_iff_occ (cap : Nat) : ∀ (h : Nat) (t : Tree K V h) (n : Nat), Sized cap h t n ↔ Occ cap (cap / 2) 0 h t n
  | 0, _, _ => Iff.rfl
  | h+1, _, _ => and_congr Iff.rfl (and_congr Iff.rfl (forall₂_congr fun c _ => sized_iff_occ cap h c _))

theorem RebPre.short {cap h : Nat} {b : Branch K (Tree K V h)} {i : Nat} {lo hi : Option Int} (hp : RebPre cap h b i lo hi) :
    Short cap (cap / 2) 0 h b i lo hi :=
  ⟨half_pos hp.cap4, Nat.mul_div_le cap 2, hp.ord, hp.nk, hp.idx, fun j c hc => (sized_iff_occ cap h c _).1 (hp.sz j c hc), hp.under⟩

theorem RebPost.of_mended {cap h : Nat} {b b2 : Branch K (Tree K V h)} {lo hi : Option Int}
    (hm : Mended cap (cap / 2) 0 h b b2 lo hi) : RebPost cap h b b2 lo hi :=
  ⟨hm.ord, hm.list, fun c hc => (sized_iff_occ cap h c _).2 (hm.sz c hc), hm.k1, hm.k2, hm.id⟩

theorem rebalanceLeaf_short (cap : Nat) (b : Branch K (Leaf K V)) (i : Nat) (al : Allocs) (lo hi : Option Int)
    (hp : Short cap (cap / 2) 0 0 (b : Branch K (Tree K V 0)) i lo hi) :
    ∃ b2 al2, rebalanceLeaf cap b i al = some (b2, al2) ∧ Mended cap (cap / 2) 0 0 (b : Branch K (Tree K V 0)) b2 lo hi := by
  apply rebalanceLeaf_cases
    (P := fun o => ∃ b2 al2, o = some (b2, al2) ∧ Mended cap (cap / 2) 0 0 (b : Branch K (Tree K V 0)) b2 lo hi)
  · intro h; exact absurd hp.idx (Nat.not_lt.2 h)
  · intro j a c e ha hc hdon; subst e
    obtain ⟨a', c', k, he, hjk, hm⟩ := hp.leafBorrowLeft ha hc hdon
    exact ⟨_, al, by simp [leafBorrowLeftAt, he, hjk, branchReplace2_eq], hm⟩
  · intro c r hc hr hdon
    obtain ⟨c', r', k, he, hik, hm⟩ := hp.leafBorrowRight hc hr hdon
    exact ⟨_, al, by simp [leafBorrowRightAt, he, hik, branchReplace2_eq], hm⟩
  · intro j x y hx hy hij
    obtain ⟨hij, _, hfit1⟩ := hp.pair_fit hx hy hij
    have hfit : x.keys.length + y.keys.length ≤ cap := Nat.le_of_succ_le hfit1
    obtain ⟨hjk, hm⟩ := hp.leafMerge hx hy hij hfit
    refine ⟨_, { al with leaf := al.leaf.dealloc y.id }, ?_, hm⟩
    unfold leafMergeRightAt leafMerge
    rw [if_pos ⟨hfit, (hp.ord.child hx).leaf_lens ▸ (hp.ord.child hy).leaf_lens ▸ hfit⟩]
    exact if_pos hjk
  · intro _ h1; exact absurd (h1 ▸ hp.two_children) (by decide)

theorem rebalanceBranch_short (cap h : Nat) (b : Branch K (Branch K (Tree K V h))) (i : Nat) (al : Allocs) (lo hi : Option Int)
    (hp : Short cap (cap / 2) 0 (h+1) (b : Branch K (Tree K V (h+1))) i lo hi) :
    ∃ b2 al2, rebalanceBranch cap b i al = some (b2, al2) ∧ Mended cap (cap / 2) 0 (h+1) (b : Branch K (Tree K V (h+1))) b2 lo hi := by
  have hlen := hp.ord.arity
  apply rebalanceBranch_cases
    (P := fun o => ∃ b2 al2, o = some (b2, al2) ∧ Mended cap (cap / 2) 0 (h+1) (b : Branch K (Tree K V (h+1))) b2 lo hi)
  · intro hbad; exact hbad.elim (fun h => absurd hp.idx (Nat.not_lt.2 h)) (fun h => absurd (hlen ▸ h) (Nat.lt_irrefl _))
  · intro j a c e ha hc hdon; subst e
    obtain ⟨sep, a', c', mk, hsep, he, hm⟩ := hp.branchBorrowLeft ha hc hdon
    exact ⟨_, al, by simp [branchBorrowLeftAt, hsep, he, branchReplace2_eq], hm⟩
  · intro c r hc hr hdon
    obtain ⟨sep, c', r', mk, hsep, he, hm⟩ := hp.branchBorrowRight hc hr hdon
    exact ⟨_, al, by simp [branchBorrowRightAt, hsep, he, branchReplace2_eq], hm⟩
  · intro j x y hx hy hij
    obtain ⟨sep, hsep, hfit, hm⟩ := hp.branchMerge hx hy hij
    refine ⟨_, { al with branch := al.branch.dealloc y.id }, ?_, hm⟩
    unfold branchMergeRightAt branchMergeNodes
    rw [hsep]
    simp only []
    rw [if_pos ⟨Nat.add_right_comm _ _ _ ▸ hfit.1, hfit.2⟩]
    rfl
  · intro _ h1; exact absurd (h1 ▸ hp.two_children) (by decide)

theorem rebalance_short (cap : Nat) : ∀ (h : Nat) (b : Branch K (Tree K V h)) (i : Nat) (al : Allocs) (lo hi : Option Int),
    Short cap (cap / 2) 0 h b i lo hi → ∃ b2 al2, rebalance cap h b i al = some (b2, al2) ∧ Mended cap (cap / 2) 0 h b b2 lo hi
  | 0, b, i, al, lo, hi, hp => rebalanceLeaf_short cap b i al lo hi hp
  | h+1, b, i, al, lo, hi, hp => rebalanceBranch_short cap h b i al lo hi hp

/-- `rebalance_child`, called on a branch whose child `i` is one key short, does not panic and leaves every child
    within occupancy, with the same entries in order and at most one key fewer in the branch -/
theorem rebalance_spec (cap : Nat) : ∀ (h : Nat) (b : Branch K (Tree K V h)) (i : Nat) (al : Allocs) (lo hi : Option Int),
    RebPre cap h b i lo hi → ∃ b2 al2, rebalance cap h b i al = some (b2, al2) ∧ RebPost cap h b b2 lo hi
  | h, b, i, al, lo, hi, hp =>
    let ⟨b2, al2, he, hm⟩ := rebalance_short cap h b i al lo hi hp.short
    ⟨b2, al2, he, .of_mended hm⟩

end BPT.Rust
