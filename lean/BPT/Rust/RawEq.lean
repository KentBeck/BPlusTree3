import BPT.Rust.Raw
/-
  The raw readers the model writes as nested matches, as equations: one `next()` by the place of its cursor; `collect()`
  and `RangeIterator::next` as sequences (`Res.bind`) of inner calls.
-/
namespace BPT.Rust
open BPT RawMap
variable {K V : Type} [Keyed K]

theorem itemNext_none (cfg : Cfg) (m : RawMap K V) (f : Nat) (st : ItState K V) (h : st.leaf = none) :
    itemNext cfg m (f+1) st = .ok (none, st) := by
  simp [itemNext, h]

theorem itemNext_inside (cfg : Cfg) (m : RawMap K V) (f : Nat) (st : ItState K V) (lf : RLeaf K V)
    (hl : st.leaf = some lf) (hk : st.idx < lf.keys.length) (hv : st.idx < lf.vals.length) :
    itemNext cfg m (f+1) st =
      if beyondEnd cfg st lf.keys[st.idx] then .ok (none, { st with leaf := none })
      else .ok (some (lf.keys[st.idx], lf.vals[st.idx]), { st with idx := st.idx + 1 }) := by
  have hguard : (if cfg.guardBoth = true then decide (st.idx < lf.keys.length ∧ st.idx < lf.vals.length)
      else decide (st.idx < lf.keys.length)) = true := by split <;> simp [hk, hv]
  unfold itemNext
  simp only [hl, hguard, if_true, List.getElem?_eq_getElem hk, List.getElem?_eq_getElem hv]

theorem itemNext_past (cfg : Cfg) (m : RawMap K V) (f : Nat) (st : ItState K V) (lf : RLeaf K V)
    (hl : st.leaf = some lf) (hk : lf.keys.length ≤ st.idx) :
    itemNext cfg m (f+1) st =
      if lf.next = nullId then .ok (none, { st with leaf := none })
      else match m.getLeaf lf.next with
        | none => .ok (none, { st with leaf := none, idx := 0 })
        | some lf' => itemNext cfg m f { st with leaf := some lf', idx := 0 } := by
  have hguard : (if cfg.guardBoth = true then decide (st.idx < lf.keys.length ∧ st.idx < lf.vals.length)
      else decide (st.idx < lf.keys.length)) = false := by split <;> simp <;> omega
  conv => lhs; unfold itemNext
  simp only [hl, hguard, Bool.false_eq_true, if_false]
  rfl

theorem fastNext_finished (cfg : Cfg) (m : RawMap K V) (f : Nat) (st : FastState K V) (h : st.finished = true) :
    fastNext cfg m (f+1) st = .ok (none, st) := by
  simp [fastNext, h]

theorem fastNext_noLeaf (cfg : Cfg) (m : RawMap K V) (f : Nat) (st : FastState K V) (h : st.finished = false)
    (hl : st.leaf = none) : fastNext cfg m (f+1) st = .ok (none, { st with finished := true }) := by
  simp [fastNext, h, hl]

theorem fastNext_inside (cfg : Cfg) (m : RawMap K V) (f : Nat) (st : FastState K V) (lf : RLeaf K V)
    (h : st.finished = false) (hl : st.leaf = some lf) (hk : st.idx < lf.keys.length) (hv : st.idx < lf.vals.length) :
    fastNext cfg m (f+1) st = .ok (some (lf.keys[st.idx], lf.vals[st.idx]), { st with idx := st.idx + 1 }) := by
  unfold fastNext
  simp only [h, Bool.false_eq_true, if_false, hl, hk, if_true, List.getElem?_eq_getElem hk, List.getElem?_eq_getElem hv]

/-- at `Cfg.repaired`: the equation needs `fastChecked`, the next leaf coming through the checked lookup -/
theorem fastNext_past (m : RawMap K V) (f : Nat) (st : FastState K V) (lf : RLeaf K V)
    (h : st.finished = false) (hl : st.leaf = some lf) (hk : lf.keys.length ≤ st.idx) :
    fastNext Cfg.repaired m (f+1) st =
      if lf.next ≠ nullId then fastNext Cfg.repaired m f { st with leaf := m.getLeaf lf.next, idx := 0 }
      else .ok (none, { st with finished := true }) := by
  conv => lhs; unfold fastNext
  simp only [h, Bool.false_eq_true, if_false, hl, Nat.not_lt.2 hk, Cfg.repaired, if_true]

theorem drain_succ {σ α : Type} (next : σ → Res (Option α × σ)) (N : Nat) (st : σ) :
    drain next (N+1) st = (next st).bind fun p =>
      match p.1 with
      | none => .ok []
      | some a => (drain next N p.2).map (a :: ·) := by
  conv => lhs; unfold drain
  cases next st with
  | ok p => obtain ⟨o, st'⟩ := p; cases o <;> rfl
  | panic => rfl
  | diverge => rfl
  | ub => rfl

theorem drain_mono {σ α : Type} (next : σ → Res (Option α × σ)) :
    ∀ (N : Nat) (st : σ) (R : List α), drain next N st = .ok R → drain next (N+1) st = .ok R := by
  intro N
  induction N with
  | zero => intro _ _ h; cases h
  | succ N ih =>
    intro st R h
    rw [drain_succ] at h ⊢
    obtain ⟨⟨o, st'⟩, hp, h⟩ := Res.bind_eq_ok h
    rw [hp, Res.bind_ok]
    cases o with
    | none => exact h
    | some a =>
      obtain ⟨R', hR', rfl⟩ := Res.map_eq_ok h
      simp only [ih st' R' hR', Res.map_ok]

theorem drain_head {σ α : Type} (next : σ → Res (Option α × σ)) (N : Nat) (st : σ) (R : List α)
    (h : drain next (N+1) st = .ok R) : (next st).map (·.1) = .ok R.head? := by
  rw [drain_succ] at h
  obtain ⟨⟨o, st'⟩, hp, h⟩ := Res.bind_eq_ok h
  rw [hp, Res.map_ok]
  cases o with
  | none => cases h; rfl
  | some a => obtain ⟨R', _, rfl⟩ := Res.map_eq_ok h; rfl

theorem drain_of_steps {σ α : Type} (next : σ → Res (Option α × σ)) (Before : σ → List α → Prop)
    (hstep : ∀ st R, Before st R → ∃ o st', next st = .ok (o, st') ∧
      match R with
      | [] => o = none
      | a :: R' => o = some a ∧ Before st' R') :
    ∀ (N : Nat) (st : σ) (R : List α), Before st R → R.length < N → drain next N st = .ok R := by
  intro N
  induction N with
  | zero => intro _ _ _ hN; omega
  | succ N ih =>
    intro st R hinv hN
    obtain ⟨o, st', he, hres⟩ := hstep st R hinv
    rw [drain_succ, he]
    cases R with
    | nil => rw [show o = none from hres]; rfl
    | cons a R' =>
      obtain ⟨rfl, hinv'⟩ := hres
      simp only [Res.bind_ok, ih st' R' hinv' (Nat.lt_of_succ_lt_succ hN), Res.map_ok]

/-- the `let skipIt` of `rangeNext` -/
def skipHit (fk : Option K) (kv : K × V) : Bool :=
  match fk with
  | some a => decide (ord kv.1 = ord a)
  | none => false

theorem rangeNext_eq (cfg : Cfg) (m : RawMap K V) (f : Nat) (it : ItState K V) (sk : Bool) (fk : Option K) :
    rangeNext cfg m f ({ it := some it, skipFirst := sk, firstKey := fk } : RangeState K V) =
      (itemNext cfg m f it).bind fun p =>
        match p.1 with
        | none => .ok (none, { it := some p.2, skipFirst := sk, firstKey := fk })
        | some kv =>
          if sk && skipHit fk kv then (itemNext cfg m f p.2).bind fun q => .ok (q.1, { it := some q.2, skipFirst := false, firstKey := fk })
          else .ok (some kv, { it := some p.2, skipFirst := false, firstKey := fk }) := by
  unfold rangeNext
  dsimp only
  cases itemNext cfg m f it with
  | ok p =>
    obtain ⟨o, it'⟩ := p
    cases o with
    | none => rfl
    | some kv =>
      cases sk with
      | false => rfl
      | true =>
        cases fk with
        | none => rfl
        | some a =>
          by_cases hm : ord kv.1 = ord a
          · simp only [skipHit, hm, decide_true, if_true, Res.bind_ok, Bool.true_and]
            cases itemNext cfg m f it' with
            | ok q => rfl
            | panic => rfl
            | diverge => rfl
            | ub => rfl
          · simp only [skipHit, hm, decide_false, if_true, Res.bind_ok, Bool.true_and, Bool.false_eq_true, if_false]
  | panic => rfl
  | diverge => rfl
  | ub => rfl

end BPT.Rust
