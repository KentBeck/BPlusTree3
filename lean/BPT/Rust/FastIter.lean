import BPT.Rust.ViewIter
/-
  `FastItemIterator` (`items_fast()`): `Iter` once more, for another `next` of the model.  No end bound, and
  a flag `finished` for exhaustion (`FPos.done`: the flag is set, or there is no leaf).
-/
namespace BPT.Rust
open BPT Tree RawMap
variable {K V : Type} [Keyed K]

/-- fast-iterator state `st` is positioned so that exactly `R` remains, with `n` leaves still ahead -/
inductive FPos (m : RawMap K V) (cap : Nat) : FastState K V → List (K × V) → Nat → Prop where
  | done (st : FastState K V) (n : Nat) : (st.finished = true ∨ st.leaf = none) → FPos m cap st [] n
  | at (st : FastState K V) (l : Leaf K V) (rest : List (Leaf K V)) (nxt n : Nat) :
      st.finished = false → st.leaf = some (leafToRaw cap l) → l.keys.length = l.vals.length → RawChain m cap rest nxt → l.next = nxt →
      st.idx ≤ l.keys.length → rest.length = n →
      FPos m cap st (l.entries.drop st.idx ++ rest.flatMap Leaf.entries) n

/-- the conclusion of `fastNext_pos` with any bound `N` on the leaves still ahead afterwards -/
def FastSpec (m : RawMap K V) (cap fuel : Nat) (st : FastState K V) (R : List (K × V)) (N : Nat) : Prop :=
  ∃ out st', fastNext Cfg.repaired m fuel st = .ok (out, st') ∧
    match R with
    | [] => out = none ∧ FPos m cap st' [] 0
    | kv :: R' => out = some kv ∧ ∃ n', FPos m cap st' R' n' ∧ n' ≤ N

/-- one `next()` call of the fast iterator from a positioned state (repaired code: checked leaf lookups) -/
theorem fastNext_pos (m : RawMap K V) (cap : Nat) :
    ∀ (n : Nat) (st : FastState K V) (R : List (K × V)) (fuel : Nat), FPos m cap st R n → n + 1 ≤ fuel →
      ∃ out st', fastNext Cfg.repaired m fuel st = .ok (out, st') ∧
        match R with
        | [] => out = none ∧ FPos m cap st' [] 0
        | kv :: R' => out = some kv ∧ ∃ n', FPos m cap st' R' n' ∧ n' ≤ n := by
  intro n st R fuel hp hf
  suffices h : ∀ N, n ≤ N → FastSpec m cap fuel st R N from h n (Nat.le_refl n)
  induction fuel generalizing n st R with
  | zero => exact absurd hf (Nat.not_succ_le_zero n)
  | succ f ih =>
    intro N hN
    rcases hp with ⟨_, hdone⟩ | ⟨l, rest, nxt, _, hfin, hleaf, hl, hch, hnx, hidx, rfl⟩
    · by_cases hfin : st.finished = true
      · exact ⟨none, st, fastNext_finished _ m f st hfin, rfl, FPos.done _ _ (Or.inl hfin)⟩
      · have hnone : st.leaf = none := hdone.resolve_left hfin
        exact ⟨none, _, fastNext_noLeaf _ m f st (by simpa using hfin) hnone, rfl, FPos.done _ _ (Or.inl rfl)⟩
    · by_cases hi : st.idx < l.keys.length
      · have hv : st.idx < l.vals.length := hl ▸ hi
        simp only [Leaf.entries, zip_drop_cons hi hv, List.cons_append]
        exact ⟨_, _, fastNext_inside _ m f st (leafToRaw cap l) hfin hleaf hi hv, rfl, rest.length,
          FPos.at (m := m) { st with idx := st.idx + 1 } l rest nxt _ hfin hleaf hl hch hnx hi rfl, hN⟩
      · have hstep := fastNext_past m f st (leafToRaw cap l) hfin hleaf (Nat.le_of_not_lt hi)
        rw [entries_drop_nil l (Nat.le_of_not_lt hi), List.nil_append]
        cases hch with
        | nil =>
          exact ⟨none, _, hstep.trans (if_neg (fun h => h hnx)), rfl, FPos.done _ _ (Or.inl rfl)⟩
        | cons l' rest' nxt2 hget hl' hne hnx2 hrest =>
          have hnext : (leafToRaw cap l).next = l'.id := hnx
          obtain ⟨out, st', he, hres⟩ := ih rest'.length { st with leaf := some (leafToRaw cap l'), idx := 0 } _
            (FPos.at _ l' rest' nxt2 _ hfin rfl hl' hrest hnx2 (Nat.zero_le _) rfl) (Nat.le_of_succ_le_succ hf)
            N (Nat.le_of_succ_le hN)
          rw [List.flatMap_cons]
          exact ⟨out, st', by rw [hstep, hnext, if_pos hne, hget]; exact he, hres⟩

theorem fastDrain_pos (m : RawMap K V) (cap : Nat) (fuel : Nat) :
    ∀ (N : Nat) (st : FastState K V) (R : List (K × V)) (n : Nat), FPos m cap st R n → n + 1 ≤ fuel → R.length < N →
      drain (fastNext Cfg.repaired m fuel) N st = .ok R := by
  intro N st R n hp hf hN
  refine drain_of_steps (fastNext Cfg.repaired m fuel) (fun st' T => ∃ n', FPos m cap st' T n' ∧ n' + 1 ≤ fuel) ?_
    N st R ⟨n, hp, hf⟩ hN
  rintro st1 T ⟨n1, hp1, hf1⟩
  obtain ⟨out, st2, he, hres⟩ := fastNext_pos m cap n1 st1 T fuel hp1 hf1
  refine ⟨out, st2, he, ?_⟩
  cases T with
  | nil => exact hres.1
  | cons kv R' =>
    obtain ⟨h1, n', h2, h3⟩ := hres
    exact ⟨h1, n', h2, Nat.le_trans (Nat.succ_le_succ h3) hf1⟩

/-- **`items_fast()` on the arena view yields exactly the abstraction** -/
theorem view_itemsFast (s : RState K V) (hs : SInv s) (hsm : Small s) : (view s).itemsFast Cfg.repaired = .ok (abs s) := by
  obtain ⟨l0, rest, hL, hfirst, hch⟩ := view_head s hs hsm
  have hbound := hch.entries_lt_itemBound
  obtain ⟨_, hget, hl0, _, hrest⟩ := hch.inv_cons
  unfold RawMap.itemsFast RawMap.fastStart
  rw [hfirst, abs_eq_entries, hL]
  simp only [Res.bind_ok, Cfg.repaired, if_true]
  exact fastDrain_pos (view s) s.cap _ _ _ _ rest.length
    (FPos.at _ l0 rest l0.next _ rfl hget hl0 hrest rfl (Nat.zero_le _) rfl) hrest.length_lt_fuel hbound

end BPT.Rust
