import BPT.Props.C12
import BPT.C.Refs
import BPT.C.Errors
import BPT.C.Dealloc
/-
  C13 — the C extension is memory-safe and balances reference counts (code with D9 / D11 repaired, tied by TieC).

  * bounds: every slot access is guarded by the allocated geometry (`Res.ub` otherwise); no call on a valid state reaches `ub`;
  * reference counts: per call, as multisets, slots-after ++ DECREFs = slots-before ++ INCREFs; `dealloc`, `tp_traverse`,
    `tp_clear` address exactly the slots (`C/Gc.lean`, `C/Dealloc.lean`: the loops transcribed by index);
  * capacity is stored exactly or rejected; the legacy models (pre-D11, pre-D9) fail on concrete witnesses;
  * error exits (`C/Errors.lean`): the contract is stated in the model and tied by the INCREF/DECREF inventory and the
    `badset` / `badget` / `baddel` correspondence lines.
  Not expressible in the model, stated partial: CPython's allocator protocol for subclass instances (D10), what the
  collector does with the references reported to it, use-after-free of the C heap — observed (ASan replay, refcount /
  weakref audit), not proved.
-/
namespace BPT.Props.C13
open BPT BPT.C Tree

variable {K V : Type} [Keyed K]

/-- no call on a valid state leaves the allocated node geometry or reads an unwritten slot -/
theorem no_out_of_bounds (s : CState K V) (hi : CInv s) :
    (∀ k v, ∃ r, setitem Cfg.repaired s k v = .ok r) ∧ (∀ k, ∃ r, delitem s k = .ok r) ∧
    (∀ k, ∃ r, getitem s k = .ok r) ∧ (∀ k, ∃ r, contains s k = .ok r) := by
  refine ⟨?_, ?_, ?_, ?_⟩
  · intro k v; obtain ⟨s', ev, he, _⟩ := setitem_spec Cfg.repaired s k v hi; exact ⟨_, he⟩
  · intro k; obtain ⟨r, he, _⟩ := delitem_spec s k hi; exact ⟨_, he⟩
  · intro k; obtain ⟨ev, he⟩ := getitem_spec s k hi; exact ⟨_, he⟩
  · intro k; obtain ⟨ev, he⟩ := contains_spec s k hi; exact ⟨_, he⟩

/-- … along every history -/
theorem no_out_of_bounds_along_histories (c : Nat) (h4 : 4 ≤ c) (h16 : c < 2 ^ capacityBits) (ops : List (C12.Op K V)) :
    ∃ s0 s', (new Cfg.repaired c : Option (CState K V)) = some s0 ∧ (∃ outs, C12.run s0 ops = .ok (s', outs)) ∧ CInv s' := by
  obtain ⟨s0, s', h0, h1, h2, _⟩ := C12.refines_dict (K := K) (V := V) c h4 h16 ops
  exact ⟨s0, s', h0, ⟨_, h1⟩, h2⟩

/-- reference-count balance of `__setitem__` (insert, overwrite, leaf and branch splits, root growth) -/
theorem setitem_balanced (s s' : CState K V) (k : K) (v : V) (ev : Evs K V) (hi : CInv s)
    (he : setitem Cfg.repaired s k v = .ok (s', ev)) : (slots s' ++ ev.dec).Perm (slots s ++ ev.inc) :=
  setitem_refs s s' k v ev hi he

/-- reference-count balance of a `__delitem__` that finds its key -/
theorem delitem_balanced (s s' : CState K V) (k : K) (ev : Evs K V)
    (he : delitem s k = .ok (some (s', ev))) : (slots s' ++ ev.dec).Perm (slots s ++ ev.inc) :=
  delitem_refs s s' k ev he

/-- `[]` hands out one new reference to the value it returns, `in` none -/
theorem lookups_balanced (s : CState K V) (k : K) :
    (∀ r ev, getitem s k = .ok (r, ev) → ev.dec = [] ∧ ev.inc = r.toList.map (Obj.val (K := K))) ∧
    (∀ b ev, contains s k = .ok (b, ev) → ev.inc = ev.dec) :=
  ⟨fun r ev he => getitem_refs s k r ev he, fun b ev he => contains_refs s k b ev he⟩

/-- an iterator step takes references only to objects a slot of the tree owns at that moment.  The two middle conjuncts hold
    by definition: `iterEvs` and `handedOut` have the same body (the model's transcription of the step's `Py_INCREF`s) -/
theorem iterator_step_balanced (s : CState K V) (hi : CInv s) (it : Iter) (R : List (K × V)) (hp : Pos s it R) :
    ∃ it' out, iterNext s it = .ok (it', out) ∧ (iterEvs out).dec = [] ∧ (iterEvs out).inc = handedOut out ∧
      ∀ o ∈ (iterEvs out).inc, o ∈ slots s :=
  iterNext_refs s (walk_of_cinv s hi) it R hp

/-- fail-fast: a step of an iterator whose stamp is not the tree's raises and takes or drops no reference -/
theorem stale_iterator_touches_nothing (s : CState K V) (it : Iter) (h : it.modc ≠ s.modc) :
    iterNext s it = .ok (it, .runtimeError) ∧ (iterEvs (IterOut.runtimeError : IterOut K V)).inc = [] ∧
      (iterEvs (IterOut.runtimeError : IterOut K V)).dec = [] :=
  ⟨C12.iterator_fail_fast s it h, rfl, rfl⟩

/-- the net effect the model assigns to `BPlusTree_dealloc` (its definition); `dealloc_two_pass_balanced` derives it
    from the two passes of the code -/
theorem dealloc_balanced (s : CState K V) : (dealloc s).dec = slots s ∧ (dealloc s).inc = [] :=
  dealloc_releases_all s

/-- cyclic-GC protocol: `tp_traverse` calls `visit` on exactly the references the tree owns, each once, and `tp_clear`
    releases exactly those -/
theorem gc_traverse_exact (s : CState K V) (hi : CInv s) :
    gcTraverse s = slots s ∧ (gcClear s).dec = slots s ∧ (gcClear s).inc = [] :=
  ⟨gcTraverse_eq_slots s hi, by rw [gcClear_eq_dealloc s hi]; rfl, rfl⟩

/-- … after every history -/
theorem gc_traverse_exact_along_histories (c : Nat) (h4 : 4 ≤ c) (h16 : c < 2 ^ capacityBits) (ops : List (C12.Op K V)) :
    ∃ s0 s', (new Cfg.repaired c : Option (CState K V)) = some s0 ∧ (∃ outs, C12.run s0 ops = .ok (s', outs)) ∧
      gcTraverse s' = slots s' ∧ (gcClear s').dec = slots s' ∧ (gcClear s').inc = [] := by
  obtain ⟨s0, s', h0, h1, h2⟩ := no_out_of_bounds_along_histories (K := K) (V := V) c h4 h16 ops
  exact ⟨s0, s', h0, h1, gc_traverse_exact s' h2⟩

/-- the destructor as written, `BPlusTree_clear` (`Py_CLEAR`) then `node_destroy` (`Py_XDECREF`), releases every owned
    reference exactly once: the first pass stores NULL before it releases, the second skips NULL -/
theorem dealloc_two_pass_balanced (s : CState K V) (hi : CInv s) :
    (deallocTwoPass s).dec = slots s ∧ (deallocTwoPass s).inc = [] := by
  rw [deallocTwoPass_eq_dealloc s hi]; exact dealloc_releases_all s

/-- … without the NULL store every reference would be released twice -/
theorem dealloc_without_nulling_double_release (s : CState K V) (hi : CInv s) :
    (clearPassNoNull ((gcVisit s.height s.root).map some)).1 ++
      destroyPass (clearPassNoNull ((gcVisit s.height s.root).map some)).2 = slots s ++ slots s :=
  dealloc_without_nulling_releases_twice s hi

/-- the loops rely on the shape invariant: with `num_keys` below the number of value objects a slot goes unreported.
    Only the second leaf is a witness: on the first (two keys over one value) the loop reads past the end of `vals`,
    finds nothing there, and reports exactly the slots -/
theorem gc_traverse_needs_shape :
    gcVisit 0 ({ id := 1, keys := [1, 2], vals := [10], next := noneId } : Leaf Int Nat) ≠
      slotsOf 0 ({ id := 1, keys := [1, 2], vals := [10], next := noneId } : Leaf Int Nat) ∨
    gcVisit 0 ({ id := 1, keys := [1], vals := [10, 20], next := noneId } : Leaf Int Nat) ≠
      slotsOf 0 ({ id := 1, keys := [1], vals := [10, 20], next := noneId } : Leaf Int Nat) :=
  Or.inr gcVisit_needs_shape

/-- one step of the ownership ledger (a single call, not iterated over a history): references taken and not yet released
    are the slots before, hence after -/
theorem owned_eq_slots_step (s s' : CState K V) (hi : CInv s) (owned : List (Obj K V)) (ho : owned.Perm (slots s)) :
    (∀ k v ev, setitem Cfg.repaired s k v = .ok (s', ev) → ((owned ++ ev.inc).Perm (slots s' ++ ev.dec))) ∧
    (∀ k ev, delitem s k = .ok (some (s', ev)) → ((owned ++ ev.inc).Perm (slots s' ++ ev.dec))) := by
  constructor
  · intro k v ev he
    exact ((ho.append_right _).trans (setitem_refs s s' k v ev hi he).symm)
  · intro k ev he
    exact ((ho.append_right _).trans (delitem_refs s s' k ev he).symm)

/-- no silent truncation of the capacity -/
theorem capacity_exact (c : Nat) :
    ((new Cfg.repaired c : Option (CState K V)) = none ↔ (c < 4 ∨ 2 ^ capacityBits ≤ c)) ∧
    (∀ s, (new Cfg.repaired c : Option (CState K V)) = some s → s.cap = c) := new_spec c

namespace Legacy
def isUb {α : Type} : Res α → Bool
  | .ub => true
  | _ => false

/-- D11 on the pre-repair model: capacity 65536 is accepted, stored as 0, and the first insert writes outside the node.
    (The second conjunct starts from a state with `cap = 0` written out; the statement ties it to the constructor call
    only through the `cap` of the first conjunct.) -/
theorem capacity_truncates :
    ((new { legacyNarrow := true } 65536 : Option (CState Int Nat)).map (·.cap) = some 0) ∧
    isUb (setitem { legacyNarrow := true }
      ({ cap := 0, height := 0, root := (emptyLeaf 1 : Leaf Int Nat), size := 0, modc := 0, nextId := 2 } : CState Int Nat) 1 1) = true ∧
    ((new Cfg.repaired 65536 : Option (CState Int Nat)).map (·.cap) = none) := by
  decide +kernel

/-- D9 on the pre-repair model: a leaf split at capacity 4 takes a second reference on every entry it moves
    (5 + 5 + the separator copy); the repaired model takes exactly three -/
theorem leaf_split_leaks :
    ((insertLeaf { legacyRefs := true } 4 ({ id := 1, keys := [1, 2, 3, 4], vals := [10, 20, 30, 40], next := 0 } : Leaf Int Nat) 5 50 2).map
        (fun r => (r.2.inc.length, r.2.dec.length)) = .ok (11, 0)) ∧
    ((insertLeaf Cfg.repaired 4 ({ id := 1, keys := [1, 2, 3, 4], vals := [10, 20, 30, 40], next := 0 } : Leaf Int Nat) 5 50 2).map
        (fun r => (r.2.inc, r.2.dec)) = .ok ([.key 5, .val 50, .key 3], [])) := by
  decide +kernel
end Legacy

/-- the contract of a call that raises on an incomparable key.  This unfolds the definition of `raisingCall`; `setitem` /
    `getitem` / `delitem` do not model a raising comparison (see `C/Errors.lean` for what ties the contract to the code) -/
theorem failed_call_keeps_nothing (s s' : CState K V) (e : Evs K V) (h : raisingCall s = some (s', e)) :
    s' = s ∧ e.inc = [] ∧ e.dec = [] :=
  ⟨raisingCall_state s s' e h, raisingCall_refs s s' e h⟩

/-- non-vacuity of `raisingCall` -/
example : ∃ s : CState Int Nat, (∃ r, setitem Cfg.repaired
      ({ cap := 4, height := 0, root := (emptyLeaf 1 : Leaf Int Nat), size := 0, modc := 0, nextId := 2 } : CState Int Nat) 1 10 = .ok r ∧ r.1 = s) ∧
    (raisingCall s).isSome = true := by
  refine ⟨_, ⟨_, rfl, rfl⟩, ?_⟩; decide +kernel

/-- non-vacuity: a history through a leaf split and a deletion, then an iterator step -/
example : ∃ s0 s' : CState Int Nat, (new Cfg.repaired 4 : Option (CState Int Nat)) = some s0 ∧
    (∃ outs, C12.run s0 [.set 1 10, .set 2 20, .set 3 30, .set 4 40, .set 5 50, .del 2] = .ok (s', outs)) ∧ CInv s' ∧
    (∃ it' out, iterNext s' (iterNew s' true) = .ok (it', out) ∧ (iterEvs out).dec = [] ∧ (iterEvs out).inc = handedOut out) := by
  obtain ⟨s0, s', h0, h1, h2⟩ := no_out_of_bounds_along_histories (K := Int) (V := Nat) 4 (by omega) (by decide)
    [.set 1 10, .set 2 20, .set 3 30, .set 4 40, .set 5 50, .del 2]
  obtain ⟨it', out, e1, e2, e3, _⟩ := iterator_step_balanced s' h2 (iterNew s' true) (abs s') (pos_new s' h2 true)
  exact ⟨s0, s', h0, h1, h2, it', out, e1, e2, e3⟩

end BPT.Props.C13
