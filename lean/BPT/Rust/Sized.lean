import BPT.Core.Glue
import BPT.Rust.Model
namespace BPT.Rust
open BPT Tree
variable {K V : Type}

/-- `Sized cap h t m`: every node of `t` holds at most `cap` keys, every node
    below `t` at least `cap/2`, and `t` itself at least `m`. -/
def Sized (cap : Nat) : (h : Nat) → Tree K V h → Nat → Prop
  | 0, (l : Leaf K V), m => m ≤ l.keys.length ∧ l.keys.length ≤ cap
  | h+1, (b : Branch K (Tree K V h)), m =>
      m ≤ b.keys.length ∧ b.keys.length ≤ cap ∧ ∀ c ∈ b.children, Sized cap h c (cap / 2)

theorem half_pos {cap : Nat} (h : 4 ≤ cap) : 1 ≤ cap / 2 :=
  (Nat.le_div_iff_mul_le (by decide)).2 (Nat.le_trans (by decide) h)

theorem Sized.mono {cap : Nat} {h : Nat} {t : Tree K V h} {m m' : Nat} (hm : m' ≤ m) (hs : Sized cap h t m) : Sized cap h t m' := by
  cases h with
  | zero => exact ⟨Nat.le_trans hm hs.1, hs.2⟩
  | succ h => exact ⟨Nat.le_trans hm hs.1, hs.2⟩

theorem Sized.raise {cap : Nat} {h : Nat} {t : Tree K V h} {m m' : Nat} (hs : Sized cap h t m) (hm : m' ≤ BPT.nkeys h t) : Sized cap h t m' := by
  cases h with
  | zero => exact ⟨hm, hs.2⟩
  | succ h => exact ⟨hm, hs.2⟩

theorem Sized.children {cap h m : Nat} {b : Branch K (Tree K V h)} (hb : Sized cap (h+1) (b : Tree K V (h+1)) m) :
    ∀ c ∈ b.children, Sized cap h c (cap / 2) := hb.2.2

theorem Sized.replace1 {cap h m : Nat} {b : Branch K (Tree K V h)} (hb : Sized cap (h+1) (b : Tree K V (h+1)) m) (i : Nat)
    {c' : Tree K V h} (hc' : Sized cap h c' (cap / 2)) : Sized cap (h+1) (b.replace1 i c' : Tree K V (h+1)) m :=
  ⟨hb.1, hb.2.1, fun x hx => (Branch.mem_replace1 b i c' x hx).elim (fun e => e ▸ hc') (hb.2.2 x)⟩

def InsSized (cap : Nat) (h : Nat) (m : Nat) : InsRes K V h → Prop
  | .updated t' _ => Sized cap h t' m
  | .split a b _ _ => Sized cap h a (cap / 2) ∧ Sized cap h b (cap / 2)

def LeafSized (cap : Nat) (h : Nat) (t : Tree K V h) : Prop := ∀ l ∈ leaves h t, l.keys.length ≤ cap

theorem Sized.leafSized (cap : Nat) : ∀ (h : Nat) (t : Tree K V h) (m : Nat), Sized cap h t m → LeafSized cap h t
  | 0, t, m, hs => by
    intro l hl
    simp only [leaves, List.mem_singleton] at hl
    subst hl; exact hs.2
  | h+1, t, m, hs => by
    intro l hl
    simp only [leaves, List.mem_flatMap] at hl
    obtain ⟨c, hc, hl⟩ := hl
    exact Sized.leafSized cap h c _ (hs.2.2 c hc) l hl

theorem leafSized_child (cap h : Nat) (b : Branch K (Tree K V h)) (c : Tree K V h)
    (hsz : LeafSized cap (h+1) (b : Tree K V (h+1))) (hc : c ∈ b.children) : LeafSized cap h c :=
  fun l hl => hsz l (List.mem_flatMap.2 ⟨c, hc, hl⟩)

variable [Keyed K]

theorem sized_nkeys (cap : Nat) : ∀ (h : Nat) (t : Tree K V h) (m : Nat), Sized cap h t m → m ≤ nkeys h t ∧ nkeys h t ≤ cap := by
  intro h t m hs
  cases h with
  | zero => exact hs
  | succ h => exact ⟨hs.1, hs.2.1⟩

end BPT.Rust
