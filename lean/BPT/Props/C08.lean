import BPT.Props.C07
/-
  C08 — iteration of the pure-Python map is sorted and complete; `items/keys/values/range(a, b)`
  yield exactly the entries with `a <= key < b` (`None` = unbounded on that side).
  All of these are `items(start_key, end_key)`: keys/values project it and `range` returns it, which is
  transcribed in the driver; their source text is held by the digests of BPT/Generated/TieSrc.lean.
-/
namespace BPT.Props.C08
open BPT BPT.Py Tree

variable {K V : Type} [Keyed K]

/-- `items(a, b)`: the entries with `a <= key < b`, ascending, each once -/
theorem items_eq_filter (s : PState K V) (hi : PInv s) (a b : Option K) :
    items s a b = .ok ((abs s).filter (fun p => inRange a b p.1)) := items_spec s hi a b

/-- unbounded iteration: every entry once, ascending -/
theorem items_all (s : PState K V) (hi : PInv s) : items s none none = .ok (abs s) ∧ SMap.Sorted (abs s) :=
  ⟨items_unbounded s hi, abs_sorted s hi⟩

/-- `keys(a, b)` / `values(a, b)`: the model has no function of its own for them; the projection of `items` is written
    here as it is transcribed in `Driver/PyDrv.lean`, so these say what `items_eq_filter` says, projected -/
theorem keys_eq (s : PState K V) (hi : PInv s) (a b : Option K) :
    (items s a b).map (·.map (·.1)) = .ok (((abs s).filter (fun p => inRange a b p.1)).map (·.1)) := by
  rw [items_spec s hi a b]; rfl
theorem values_eq (s : PState K V) (hi : PInv s) (a b : Option K) :
    (items s a b).map (·.map (·.2)) = .ok (((abs s).filter (fun p => inRange a b p.1)).map (·.2)) := by
  rw [items_spec s hi a b]; rfl

/-- an empty or inverted interval yields nothing -/
theorem empty_or_inverted (s : PState K V) (hi : PInv s) (a b : K) (h : ord b ≤ ord a) :
    items s (some a) (some b) = .ok [] := by
  rw [items_spec s hi]
  congr 1
  rw [List.filter_eq_nil_iff]
  intro p _
  simp only [inRange, Bool.and_eq_true, decide_eq_true_eq, not_and]
  intro h1; omega

theorem mem_items_iff (s : PState K V) (hi : PInv s) (a b : Option K) (p : K × V) :
    (∃ l, items s a b = .ok l ∧ p ∈ l) ↔ p ∈ abs s ∧ inRange a b p.1 = true := by
  rw [items_spec s hi]
  constructor
  · rintro ⟨l, hl, hp⟩
    cases hl
    exact List.mem_filter.1 hp
  · intro h
    exact ⟨_, rfl, List.mem_filter.2 h⟩

theorem items_sorted (s : PState K V) (hi : PInv s) (a b : Option K) :
    ∃ l, items s a b = .ok l ∧ SMap.Sorted l :=
  ⟨_, items_spec s hi a b, (abs_sorted s hi).filter _⟩

/-- paging: `[a, b)` cut at any key `m` loses and duplicates nothing -/
theorem items_split (s : PState K V) (hi : PInv s) (a b : Option K) (m : K) :
    ∃ l r w, items s a (some m) = .ok l ∧ items s (some m) b = .ok r ∧ items s a b = .ok w ∧
      ∀ p, p ∈ w ↔ (p ∈ l ∧ inRange none b p.1 = true) ∨ (p ∈ r ∧ inRange a none p.1 = true) := by
  refine ⟨_, _, _, items_spec s hi _ _, items_spec s hi _ _, items_spec s hi _ _, ?_⟩
  intro p
  simp only [List.mem_filter, inRange, Bool.and_eq_true, decide_eq_true_eq, Bool.true_and, Bool.and_true]
  constructor
  · rintro ⟨hm, h1, h2⟩
    by_cases h : ord p.1 < ord m
    · exact Or.inl ⟨⟨hm, h1, h⟩, h2⟩
    · exact Or.inr ⟨⟨hm, by omega, h2⟩, h1⟩
  · rintro (⟨⟨hm, h1, _⟩, h2⟩ | ⟨⟨hm, _, h2⟩, h1⟩)
    · exact ⟨hm, h1, h2⟩
    · exact ⟨hm, h1, h2⟩

/-- the chain walk visits exactly the leaves in tree order -/
theorem chain_is_leaves (s : PState K V) (hi : PInv s) : chain s = .ok (leaves s.height s.root) := chain_spec s hi

/-- the same after any call history on `BPlusTreeMap(cap)`, `cap ≥ 4` -/
theorem items_after_history (isNone : V → Bool) (cap : Nat) (hcap : 4 ≤ cap) (ops : List (Op K V)) (a b : Option K) :
    ∃ s0 s', (new cap : Option (PState K V)) = some s0 ∧
      C07.run isNone s0 ops = .ok (s', (C07.specRun [] ops).2) ∧
      items s' a b = .ok (((C07.specRun [] ops).1).filter (fun p => inRange a b p.1)) := by
  obtain ⟨s0, s', h0, h1, h2, h3⟩ := C07.refines_dict (K := K) (V := V) isNone cap hcap ops
  exact ⟨s0, s', h0, h1, by rw [items_spec s' h2, h3]⟩

/-- non-vacuity: leaf split, deletion, a range from an absent key to a present one -/
example : ∃ s0 s' : PState Int Nat, (new 4 : Option (PState Int Nat)) = some s0 ∧
    (∃ outs, C07.run (fun _ => false) s0 [.set 1 10, .set 2 20, .set 3 30, .set 4 40, .set 5 50, .set 6 60, .del 3] = .ok (s', outs)) ∧
    items s' (some 3) (some 6) = .ok [(4, 40), (5, 50)] := by
  obtain ⟨s0, s', h0, h1, h2⟩ := items_after_history (K := Int) (V := Nat) (fun _ => false) 4 (by omega)
    [.set 1 10, .set 2 20, .set 3 30, .set 4 40, .set 5 50, .set 6 60, .del 3] (some 3) (some 6)
  refine ⟨s0, s', h0, ⟨_, h1⟩, ?_⟩
  rw [h2]; decide

end BPT.Props.C08
