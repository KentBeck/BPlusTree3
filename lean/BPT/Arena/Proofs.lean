import BPT.Arena.Model
import BPT.Core.Lists
/-
  `CompactArena` (C16).  On a well-formed arena `get` reads the mask bit and the item of its slot and nothing else;
  the calls are three moves: grow by a slot, claim the top of the free list, release a live slot.  With an empty
  free list every bit is set and `get` reads the storage: the arena around a grow, after `compact`, the empty one.
-/
namespace BPT
namespace Arena
variable {T : Type}

/-- well-formedness of an arena: what `CompactArena`'s methods maintain -/
structure AInv (a : Arena T) : Prop where
  len_eq : a.storage.length = a.mask.length
  free_nodup : a.free.Nodup
  free_iff : ∀ i, i ∈ a.free ↔ a.mask[i]? = some false
  -- carried for convenience: it follows from `free_nodup` and `free_iff`
  count : a.free.length + a.mask.count true = a.mask.length
  -- the "arena full" refusal of `allocate` (D5 repaired); the code as found (`allocateL (nullId + 1)`) breaks it
  bound : a.storage.length ≤ nullId

theorem ainv_full (l : List T) (hl : l.length ≤ nullId) : AInv ⟨l, List.replicate l.length true, []⟩ where
  len_eq := List.length_replicate.symm
  free_nodup := List.nodup_nil
  free_iff i := by simp [List.getElem?_replicate]
  count := by simp
  bound := hl

theorem ainv_empty : AInv (empty : Arena T) := ainv_full [] (Nat.zero_le _)

theorem mask_of_free_nil (a : Arena T) (h : AInv a) (hf : a.free = []) :
    a.mask = List.replicate a.storage.length true := by
  have hc := h.count
  rw [hf, List.length_nil, Nat.zero_add, List.count_eq_length] at hc
  exact List.eq_replicate_iff.2 ⟨h.len_eq.symm, fun b hb => (hc b hb).symm⟩

theorem count_setAt_true (l : List Bool) (i : Nat) (h : l[i]? = some false) :
    (setAt l i true).count true = l.count true + 1 := by
  simpa using (perm_setAt l i true false h).count_eq true

theorem count_setAt_false (l : List Bool) (i : Nat) (h : l[i]? = some true) :
    (setAt l i false).count true + 1 = l.count true := by
  simpa using (perm_setAt l i false true h).count_eq true

theorem maskAt_true_iff (a : Arena T) (i : Nat) : a.maskAt i = true ↔ a.mask[i]? = some true := by
  unfold maskAt; cases h : a.mask[i]? <;> simp

theorem maskAt_lt (a : Arena T) (i : Nat) (h : a.maskAt i = true) : i < a.mask.length :=
  lt_of_getElem?_eq_some ((maskAt_true_iff a i).1 h)

theorem get_null (a : Arena T) : a.get nullId = none := by simp [get]

theorem get_eq_some {a : Arena T} {id : Nat} {x : T} (h : a.get id = some x) :
    id ≠ nullId ∧ id < a.storage.length ∧ a.maskAt id = true ∧ a.storage[id]? = some x := by
  unfold get at h
  by_cases h1 : id = nullId
  · simp [h1] at h
  · rw [if_neg h1] at h
    by_cases h2 : id < a.storage.length ∧ a.maskAt id = true
    · rw [if_pos h2] at h
      exact ⟨h1, h2.1, h2.2, h⟩
    · rw [if_neg h2] at h; cases h

theorem get_out_of_range (a : Arena T) {id : Nat} (h : a.storage.length ≤ id) : a.get id = none := by
  simp [get, Nat.not_lt.2 h]

theorem get_eq (a : Arena T) (h : AInv a) (id : Nat) :
    a.get id = if a.mask[id]? = some true then a.storage[id]? else none := by
  unfold get
  by_cases hm : a.mask[id]? = some true
  · have := lt_of_getElem?_eq_some hm
    have := h.bound; have := h.len_eq
    simp [hm, (maskAt_true_iff a id).2 hm, show id ≠ nullId by omega, show id < a.storage.length by omega]
  · simp [hm, mt (maskAt_true_iff a id).1 hm]

theorem get_eq_some_iff (a : Arena T) (h : AInv a) (id : Nat) (x : T) :
    a.get id = some x ↔ a.mask[id]? = some true ∧ a.storage[id]? = some x := by
  rw [get_eq a h]; split <;> simp [*]

theorem maskAt_eq_isSome (a : Arena T) (h : AInv a) (id : Nat) : a.maskAt id = (a.get id).isSome := by
  rw [Bool.eq_iff_iff, maskAt_true_iff, get_eq a h]
  split
  · rename_i hm
    have hlt : id < a.storage.length := by rw [h.len_eq]; exact lt_of_getElem?_eq_some hm
    simp [hm, List.getElem?_eq_getElem hlt]
  · simp [*]

theorem get_congr {a b : Arena T} (ha : AInv a) (hb : AInv b) {j : Nat}
    (hm : b.mask[j]? = a.mask[j]?) (hs : b.storage[j]? = a.storage[j]?) : b.get j = a.get j := by
  rw [get_eq b hb, get_eq a ha, hm, hs]

theorem contains_eq (a : Arena T) (id : Nat) : a.contains id = (a.get id).isSome := by
  unfold contains get
  split
  · simp
  · by_cases h1 : id < a.storage.length <;> by_cases h2 : a.maskAt id = true <;> simp [h1, h2]

theorem get_of_free_nil {a : Arena T} (h : AInv a) (hf : a.free = []) (j : Nat) : a.get j = a.storage[j]? := by
  rw [get_eq a h, mask_of_free_nil a h hf, List.getElem?_replicate]
  by_cases hj : j < a.storage.length
  · rw [if_pos hj, if_pos rfl]
  · rw [if_neg hj, if_neg nofun, List.getElem?_eq_none (Nat.le_of_not_lt hj)]

theorem grow_spec (a : Arena T) (h : AInv a) (x : T) (hf : a.free = []) (hlt : a.storage.length < nullId) :
    let a' : Arena T := { storage := a.storage ++ [x], mask := a.mask ++ [true], free := [] }
    AInv a' ∧ a'.get a.storage.length = some x ∧ (∀ j, j ≠ a.storage.length → a'.get j = a.get j) ∧
      a'.len = a.len + 1 := by
  dsimp only
  have hinv : AInv ({ storage := a.storage ++ [x], mask := a.mask ++ [true], free := [] } : Arena T) := by
    have := ainv_full (a.storage ++ [x]) (by rw [List.length_append]; exact hlt)
    rwa [List.length_append, List.length_singleton, List.replicate_succ', ← mask_of_free_nil a h hf] at this
  refine ⟨hinv, (get_of_free_nil hinv rfl _).trans List.getElem?_concat_length, ?_, by simp [len, List.count_append]⟩
  intro j hj
  rw [get_of_free_nil hinv rfl, get_of_free_nil h hf, List.getElem?_append]
  split
  · rfl
  · rw [List.getElem?_eq_none (l := [x]) (by simp; omega), List.getElem?_eq_none (by omega)]

theorem claim_spec (a : Arena T) (h : AInv a) (x : T) (i : Nat) (rest : List Nat) (hf : a.free = i :: rest) :
    let a' : Arena T := { storage := setAt a.storage i x, mask := setAt a.mask i true, free := rest }
    AInv a' ∧ i < a.storage.length ∧ a.get i = none ∧ a'.get i = some x ∧ (∀ j, j ≠ i → a'.get j = a.get j) ∧
      a'.len = a.len + 1 ∧ a'.storage.length = a.storage.length := by
  dsimp only
  have hmi : a.mask[i]? = some false := (h.free_iff i).1 (by simp [hf])
  have hlm := lt_of_getElem?_eq_some hmi
  have hls : i < a.storage.length := h.len_eq ▸ hlm
  have hnd := h.free_nodup
  have hcnt := h.count
  have hc := count_setAt_true a.mask i hmi
  rw [hf] at hnd hcnt
  obtain ⟨hnotin, hrest⟩ := List.nodup_cons.1 hnd
  have hinv : AInv ({ storage := setAt a.storage i x, mask := setAt a.mask i true, free := rest } : Arena T) := by
    constructor
    · simp [length_setAt hls, length_setAt hlm, h.len_eq]
    · exact hrest
    · intro j
      have := h.free_iff j
      rw [hf, List.mem_cons] at this
      simp only [getElem?_setAt hlm]
      by_cases hj : j = i
      · simp [hj, hnotin]
      · simp [hj, ← this]
    · simp only [length_setAt hlm, List.length_cons] at hcnt ⊢; omega
    · simp only [length_setAt hls]; exact h.bound
  refine ⟨hinv, hls, ?_, ?_, ?_, ?_, length_setAt hls⟩
  · rw [get_eq a h, hmi]; simp
  · rw [get_eq _ hinv]; simp [getElem?_setAt hlm, getElem?_setAt hls]
  · intro j hj
    exact get_congr h hinv (by rw [getElem?_setAt hlm, if_neg hj]) (by rw [getElem?_setAt hls, if_neg hj])
  · exact hc

/-- `st` is what the call leaves in the storage: `T::default()` in the slot, or the item itself -/
theorem release_spec (a : Arena T) (h : AInv a) (id : Nat) (x : T) (hg : a.get id = some x) (st : List T)
    (hlen : st.length = a.storage.length) (hst : ∀ j, j ≠ id → st[j]? = a.storage[j]?) :
    let a' : Arena T := { storage := st, mask := setAt a.mask id false, free := id :: a.free }
    AInv a' ∧ a'.get id = none ∧ (∀ j, j ≠ id → a'.get j = a.get j) ∧ a'.len + 1 = a.len ∧
      a'.freeCount = a.freeCount + 1 := by
  dsimp only
  have hmask := (maskAt_true_iff a id).1 (get_eq_some hg).2.2.1
  have hlm := lt_of_getElem?_eq_some hmask
  have hc := count_setAt_false a.mask id hmask
  have hinv : AInv ({ storage := st, mask := setAt a.mask id false, free := id :: a.free } : Arena T) := by
    constructor
    · simp [hlen, length_setAt hlm, h.len_eq]
    · exact List.nodup_cons.2 ⟨by rw [h.free_iff]; simp [hmask], h.free_nodup⟩
    · intro j
      simp only [List.mem_cons, getElem?_setAt hlm]
      by_cases hj : j = id <;> simp [hj, h.free_iff j]
    · simp only [List.length_cons, length_setAt hlm]; have := h.count; omega
    · simp only [hlen]; exact h.bound
  refine ⟨hinv, ?_, ?_, hc, rfl⟩
  · rw [get_eq _ hinv]; simp [getElem?_setAt hlm]
  · intro j hj
    exact get_congr h hinv (by rw [getElem?_setAt hlm, if_neg hj]) (hst j hj)

theorem allocate_claim (a : Arena T) (h : AInv a) (x : T) (i : Nat) (rest : List Nat) (hf : a.free = i :: rest) :
    a.allocate x = .ok (i, { storage := setAt a.storage i x, mask := setAt a.mask i true, free := rest }) := by
  have hlm := lt_of_getElem?_eq_some ((h.free_iff i).1 (by simp [hf]))
  have hls : i < a.storage.length := h.len_eq ▸ hlm
  have : i ≤ nullId := by have := h.bound; omega
  simp [allocate, allocateL, hf, hlm, hls, this]

theorem allocate_grow (a : Arena T) (x : T) (hf : a.free = []) :
    a.allocate x = if a.storage.length < nullId then
      .ok (a.storage.length, { storage := a.storage ++ [x], mask := a.mask ++ [true], free := [] }) else .panic := by
  simp [allocate, allocateL, hf]

theorem allocate_spec (a : Arena T) (h : AInv a) (x : T) (id : Nat) (a' : Arena T)
    (he : a.allocate x = .ok (id, a')) :
    AInv a' ∧ id ≠ nullId ∧ a.get id = none ∧ a'.get id = some x ∧ (∀ j, j ≠ id → a'.get j = a.get j) ∧
    a'.len = a.len + 1 ∧ a'.storage.length = (if a.free = [] then a.storage.length + 1 else a.storage.length) := by
  cases hf : a.free with
  | nil =>
    by_cases hlim : a.storage.length < nullId
    · rw [allocate_grow a x hf, if_pos hlim, Res.ok.injEq, Prod.mk.injEq] at he
      obtain ⟨rfl, rfl⟩ := he
      obtain ⟨h1, h2, h3, h4⟩ := grow_spec a h x hf hlim
      exact ⟨h1, Nat.ne_of_lt hlim, get_out_of_range a (Nat.le_refl _), h2, h3, h4,
        by rw [if_pos rfl, List.length_append]; rfl⟩
    · rw [allocate_grow a x hf, if_neg hlim] at he; cases he
  | cons i rest =>
    rw [allocate_claim a h x i rest hf, Res.ok.injEq, Prod.mk.injEq] at he
    obtain ⟨rfl, rfl⟩ := he
    obtain ⟨h1, h2, h3, h4, h5, h6, h7⟩ := claim_spec a h x i rest hf
    exact ⟨h1, Nat.ne_of_lt (Nat.lt_of_lt_of_le h2 h.bound), h3, h4, h5, h6,
      by rw [if_neg (List.cons_ne_nil _ _)]; exact h7⟩

theorem allocate_ok (a : Arena T) (h : AInv a) (x : T) (hroom : a.free ≠ [] ∨ a.storage.length < nullId) :
    ∃ id a', a.allocate x = .ok (id, a') := by
  cases hf : a.free with
  | nil => exact ⟨_, _, by rw [allocate_grow a x hf, if_pos (hroom.resolve_left (· hf))]⟩
  | cons i rest => exact ⟨_, _, allocate_claim a h x i rest hf⟩

theorem deallocate_live (dflt : T) (a : Arena T) (h : AInv a) (id : Nat) (x : T) (hg : a.get id = some x) :
    ∃ a', a.deallocate dflt id = .ok (some x, a') ∧ AInv a' ∧ a'.get id = none ∧
      (∀ j, j ≠ id → a'.get j = a.get j) ∧ a'.len + 1 = a.len ∧ a'.freeCount = a.freeCount + 1 ∧
      a'.storage.length = a.storage.length := by
  obtain ⟨hne, hls, hmask, hstored⟩ := get_eq_some hg
  have hl := length_setAt (x := dflt) hls
  obtain ⟨h1, h2, h3, h4, h5⟩ := release_spec a h id x hg (setAt a.storage id dflt) hl
    (fun j hj => by rw [getElem?_setAt hls, if_neg hj])
  exact ⟨_, by simp [deallocate, hne, hmask, hstored], h1, h2, h3, h4, h5, hl⟩

theorem deallocateNoReturn_live (a : Arena T) (h : AInv a) (id : Nat) (x : T) (hg : a.get id = some x) :
    ∃ a', a.deallocateNoReturn id = (true, a') ∧ AInv a' ∧ a'.get id = none ∧
      (∀ j, j ≠ id → a'.get j = a.get j) ∧ a'.len + 1 = a.len ∧ a'.freeCount = a.freeCount + 1 := by
  obtain ⟨hne, _, hmask, _⟩ := get_eq_some hg
  exact ⟨_, by simp [deallocateNoReturn, hne, maskAt_lt a id hmask, hmask],
    release_spec a h id x hg a.storage rfl (fun _ _ => rfl)⟩

theorem deallocate_dead (dflt : T) (a : Arena T) (h : AInv a) (id : Nat) (hg : a.get id = none) :
    a.deallocate dflt id = .ok (none, a) := by
  unfold deallocate
  by_cases hn : id = nullId
  · simp [hn]
  · simp [hn, maskAt_eq_isSome a h, hg]

theorem deallocateNoReturn_dead (a : Arena T) (h : AInv a) (id : Nat) (hg : a.get id = none) :
    a.deallocateNoReturn id = (false, a) := by
  unfold deallocateNoReturn
  by_cases hn : id = nullId
  · simp [hn]
  · simp [hn, maskAt_eq_isSome a h, hg]

theorem modify_spec (a : Arena T) (h : AInv a) (id : Nat) (f : T → T) :
    AInv (a.modify id f) ∧ (a.modify id f).get id = (a.get id).map f ∧
      (∀ j, j ≠ id → (a.modify id f).get j = a.get j) ∧ (a.modify id f).len = a.len ∧
      (a.modify id f).free = a.free := by
  unfold modify
  cases hg : a.get id with
  | none => simp [hg, h]
  | some x =>
    obtain ⟨_, hls, hmask, _⟩ := get_eq_some hg
    have hl := length_setAt (x := f x) hls
    have hinv : AInv ({ a with storage := setAt a.storage id (f x) } : Arena T) :=
      ⟨hl.trans h.len_eq, h.free_nodup, h.free_iff, h.count, hl ▸ h.bound⟩
    refine ⟨hinv, ?_, ?_, rfl, rfl⟩
    · rw [get_eq _ hinv]; simp [getElem?_setAt hls, (maskAt_true_iff a id).1 hmask]
    · intro j hj
      exact get_congr h hinv rfl (by rw [getElem?_setAt hls, if_neg hj])

theorem clear_spec (a : Arena T) : AInv a.clear ∧ (∀ id, a.clear.get id = none) ∧ a.clear.len = 0 ∧ a.clear.freeCount = 0 := by
  refine ⟨ainv_empty, ?_, rfl, rfl⟩
  intro id; exact get_out_of_range _ (Nat.zero_le _)

theorem liveItems_length (a : Arena T) (h : AInv a) : a.liveItems.length = a.len := by
  -- the mask is the second projection of `storage.zip mask`, so both sides count the pairs whose bit is set
  have hm : a.mask = (a.storage.zip a.mask).map Prod.snd := (List.map_snd_zip (Nat.le_of_eq h.len_eq.symm)).symm
  rw [liveItems, List.length_map, ← List.countP_eq_length_filter, len, hm, List.count_eq_countP, List.countP_map, ← hm]
  exact List.countP_congr fun p _ => by simp

theorem compact_mask (a : Arena T) : a.compact.mask = List.replicate a.liveItems.length true := List.map_const' ..

theorem compact_spec (a : Arena T) (h : AInv a) :
    AInv a.compact ∧ a.compact.liveItems = a.liveItems ∧ a.compact.len = a.len ∧ a.compact.freeCount = 0 := by
  have hlen : a.compact.len = a.len := by
    rw [len, compact_mask, List.count_replicate_self, liveItems_length a h]
  refine ⟨?_, ?_, hlen, rfl⟩
  · have h2 : a.len ≤ a.mask.length := List.count_le_length
    have := ainv_full a.liveItems (by have := h.bound; have := h.len_eq; have := liveItems_length a h; omega)
    rwa [← compact_mask] at this
  · show ((a.liveItems.zip a.compact.mask).filter (fun p => p.2)).map (fun p => p.1) = a.liveItems
    rw [compact_mask]
    generalize a.liveItems = l
    induction l with
    | nil => rfl
    | cons x xs ih => simpa [List.replicate_succ, List.filter_cons] using ih

theorem counters (a : Arena T) (h : AInv a) :
    a.len + a.freeCount = a.storage.length ∧ a.isEmpty = (a.len == 0) := by
  constructor
  · have := h.count; have := h.len_eq; simp only [len, freeCount]; omega
  · rfl

theorem mask_eq_map (a : Arena T) : a.mask = (List.range a.mask.length).map (fun i => a.maskAt i) := by
  apply List.ext_getElem
  · simp
  · intro i h1 h2
    simp [maskAt, List.getElem?_eq_getElem h1]

theorem len_eq_filter (a : Arena T) : a.len = ((List.range a.mask.length).filter (fun i => a.maskAt i)).length := by
  rw [← count_true_map, ← mask_eq_map a, len]

theorem len_eq_live_handles (a : Arena T) (h : AInv a) :
    a.len = ((List.range a.storage.length).filter (fun i => (a.get i).isSome)).length := by
  rw [len_eq_filter, h.len_eq]
  simp only [maskAt_eq_isSome a h]

end Arena

namespace Rust

/-- a duplicate-free list of allocated slots as long as the allocated count lists every allocated slot -/
theorem covers_allocated {T : Type} (a : Arena T) (ids : List Nat) (hnd : ids.Nodup) (hall : ∀ i ∈ ids, a.maskAt i = true)
    (hlen : ids.length = a.len) : ∀ i, a.maskAt i = true → i ∈ ids := by
  intro i hi
  let B := (List.range a.mask.length).filter (fun i => a.maskAt i)
  have hB : B.length = a.len := (Arena.len_eq_filter a).symm
  have hsub : ∀ x ∈ ids, x ∈ B := by
    intro x hx
    exact List.mem_filter.2 ⟨List.mem_range.2 (Arena.maskAt_lt a x (hall x hx)), hall x hx⟩
  exact subset_of_nodup_subset_of_length_le ids B hnd hsub (by omega) i (List.mem_filter.2 ⟨List.mem_range.2 (Arena.maskAt_lt a i hi), hi⟩)

end Rust
end BPT
