import BPT.Rust.Remove
import BPT.Rust.InsertRec
import BPT.Core.Leaves
/-
  Map-level theorems: the invariant `Inv` (order + occupancy), `new`, `insert`,
  `remove` (with root collapse), `get`, `get_mut` write, `len`, `clear` against
  the sorted-association-list specification `SMap`.
-/
namespace BPT.Rust
open BPT Tree
variable {K V : Type}

/-- `4` is `minCapacity`.  Of `4 ≤ cap` the proofs use only `1 ≤ cap / 2` (`half_pos`) and `1 ≤ cap`. -/
theorem new_of_le (c : Nat) (hc : 4 ≤ c) : (new c : Option (RState K V)) = some (freshState c) :=
  if_neg (Nat.not_lt.2 hc)

variable [Keyed K]

/-- abstraction: the in-order entry list -/
def abs (s : RState K V) : List (K × V) := toList s.height s.root

/-- minimum number of keys the root node must hold -/
def rootMin (h : Nat) : Nat := if h = 0 then 0 else 1

theorem rootMin_zero : rootMin 0 = 0 := rfl
theorem rootMin_succ (h : Nat) : rootMin (h+1) = 1 := rfl

/-- arity and the keys / values parallelism are inside `Ordered`; chain and ids are in `SInv` -/
structure Inv (s : RState K V) : Prop where
  cap4 : 4 ≤ s.cap
  ord : Ordered s.height s.root none none
  sz : Sized s.cap s.height s.root (rootMin s.height)

theorem inv_fresh (cap : Nat) (hcap : 4 ≤ cap) : Inv (freshState cap : RState K V) ∧ abs (freshState cap : RState K V) = [] := by
  refine ⟨⟨hcap, ?_, ?_⟩, ?_⟩
  · exact ⟨List.Pairwise.nil, rfl, fun _ h => by cases h⟩
  · exact ⟨Nat.zero_le _, Nat.zero_le _⟩
  · simp [abs, freshState, toList, leaves, emptyLeaf, Leaf.entries]

theorem new_spec (cap : Nat) :
    (cap < 4 → (new cap : Option (RState K V)) = none) ∧
    (4 ≤ cap → ∃ s, (new cap : Option (RState K V)) = some s ∧ Inv s ∧ abs s = [] ∧ s.cap = cap) :=
  ⟨fun h => if_pos h, fun h => ⟨freshState cap, new_of_le cap h, (inv_fresh cap h).1, (inv_fresh cap h).2, rfl⟩⟩

theorem clear_spec (s : RState K V) (hi : Inv s) : Inv (clear s) ∧ abs (clear s) = [] ∧ (clear s).cap = s.cap :=
  ⟨(inv_fresh s.cap hi.cap4).1, (inv_fresh s.cap hi.cap4).2, rfl⟩

theorem insert_spec (s : RState K V) (k : K) (v : V) (hi : Inv s) :
    ∃ s' old, insert s k v = some (s', old) ∧ Inv s' ∧ abs s' = SMap.insert (abs s) k v ∧
      old = (SMap.lookup (abs s) k).map (·.2) ∧ s'.cap = s.cap := by
  obtain ⟨hcap, ho, hsz⟩ := hi
  obtain ⟨res, al', he, hok, hold, hsized⟩ := insertRec_correct s.cap hcap s.height s.root none none k v s.al ho (inB_none)
  replace hsized := hsized (rootMin s.height) hsz
  unfold insert
  rw [he]
  cases res with
  | updated t old =>
    exact ⟨_, _, rfl, ⟨hcap, hok.1, hsized⟩, hok.2, hold, rfl⟩
  | split l r sep old =>
    obtain ⟨hl, hr, _, _, hlist⟩ := hok
    exact ⟨_, _, rfl, ⟨hcap, (ordered_two s.height _ l r sep none none).2 ⟨hl, hr, inB_none⟩,
        Nat.le_of_eq (rootMin_succ _), Nat.le_trans (show 1 ≤ 4 by decide) hcap, forall_mem_two hsized.1 hsized.2⟩,
      (toList_grow s.height l r sep _).trans hlist, hold, rfl⟩

theorem insert_some {s s' : RState K V} {k : K} {v : V} {old : Option V} (he : insert s k v = some (s', old)) :
    ∃ res al', insertRec s.cap s.height s.root k v s.al = some (res, al') ∧
      ((∃ t, res = .updated t old ∧ s' = { s with root := t, al := al' }) ∨
       (∃ l r sep, res = .split l r sep old ∧
          s' = { cap := s.cap, height := s.height + 1,
                 root := ({ id := al'.branch.alloc.1, keys := [sep], children := [l, r] } : Branch K (Tree K V s.height)),
                 al := { al' with branch := al'.branch.alloc.2 } })) := by
  unfold insert at he
  cases hrec : insertRec s.cap s.height s.root k v s.al with
  | none => rw [hrec] at he; cases he
  | some p =>
    obtain ⟨res, al'⟩ := p
    rw [hrec] at he
    refine ⟨res, al', rfl, ?_⟩
    cases res with
    | updated t o => cases he; exact Or.inl ⟨t, rfl, rfl⟩
    | split l r sep o => cases he; exact Or.inr ⟨l, r, sep, rfl, rfl⟩

theorem collapse_spec (cap : Nat) (h : Nat) (t : Tree K V h) (al : Allocs)
    (ho : Ordered h t none none) (hs : Sized cap h t 0) :
    Ordered (collapse h t al).1.1 (collapse h t al).1.2 none none ∧
    Sized cap (collapse h t al).1.1 (collapse h t al).1.2 (rootMin (collapse h t al).1.1) ∧
    toList (collapse h t al).1.1 (collapse h t al).1.2 = toList h t := by
  fun_induction collapse h t al with
  | case1 al l => exact ⟨ho, hs, rfl⟩
  | case2 h al c b hch ih =>                          -- single child: it becomes the root
    obtain ⟨hco, hflat⟩ := ordered_single ho hch
    have hcs : Sized cap h c (cap/2) := hs.children c (by rw [hch]; exact List.mem_cons_self)
    obtain ⟨h1, h2, h3⟩ := ih hco (hcs.mono (Nat.zero_le _))
    refine ⟨h1, h2, ?_⟩
    rw [h3, toList_succ]; exact (hflat _).symm
  | case3 h al lid b hch => exact absurd hch ho.children_ne_nil   -- no child: not an ordered branch
  | case4 h al c c2 rest b hch =>                     -- two or more children: the root holds a key
    exact ⟨ho, hs.raise (ho.one_le_keys hch), rfl⟩

theorem removeRec_root (s : RState K V) (k : K) (hi : Inv s) :
    ∃ r al', removeRec s.cap s.height s.root k s.al = some (r, al') ∧
      RemPost s.cap s.height s.root none none k (rootMin s.height) r :=
  removeRec_spec s.cap hi.cap4 s.height s.root none none k s.al (rootMin s.height) hi.ord hi.sz
    (by cases s.height with | zero => exact .inl rfl | succ h => exact .inr (Nat.le_of_eq (rootMin_succ h).symm))

theorem remove_of_absent {s : RState K V} {k : K} {r : RemOut K V s.height} {al' : Allocs}
    (he : removeRec s.cap s.height s.root k s.al = some (r, al')) (h : r.old = none) :
    remove s k = some ({ s with root := r.t, al := al' }, none) := by
  unfold remove; rw [he]; simp only [h, Option.isSome_none, Bool.false_eq_true, if_false]

theorem remove_of_present {s : RState K V} {k : K} {r : RemOut K V s.height} {al' : Allocs}
    (he : removeRec s.cap s.height s.root k s.al = some (r, al')) (h : r.old.isSome) :
    remove s k = some ({ cap := s.cap, height := (collapse s.height r.t al').1.1, root := (collapse s.height r.t al').1.2,
                         al := (collapse s.height r.t al').2 }, r.old) := by
  unfold remove; rw [he]; simp only [h, if_true]

theorem remove_spec (s : RState K V) (k : K) (hi : Inv s) :
    ∃ s' old, remove s k = some (s', old) ∧ Inv s' ∧ abs s' = SMap.erase (abs s) k ∧
      old = (SMap.lookup (abs s) k).map (·.2) ∧ s'.cap = s.cap := by
  obtain ⟨r, al', he, hp⟩ := removeRec_root s k hi
  cases hold : r.old with
  | none =>
    refine ⟨_, _, remove_of_absent he hold, ⟨hi.cap4, hp.ord, ?_⟩, hp.list, hold ▸ hp.old, rfl⟩
    show Sized s.cap s.height r.t (rootMin s.height)
    rw [(hp.same hold).1]; exact hi.sz
  | some v =>
    obtain ⟨hco, hcs, hcl⟩ :=
      collapse_spec s.cap s.height r.t al' hp.ord (hp.sz.mono (Nat.zero_le _))
    exact ⟨_, _, remove_of_present he (by rw [hold]; rfl), ⟨hi.cap4, hco, hcs⟩, hcl.trans hp.list, hp.old, rfl⟩

theorem getRec_spec : ∀ (h : Nat) (t : Tree K V h) (lo hi : Option Int) (k : K),
    Ordered h t lo hi → getRec h t k = SMap.lookup (toList h t) k := by
  intro h
  induction h with
  | zero =>
    intro t lo hi k ho
    unfold getRec
    simp only []
    rcases lowerBound_hit_or_miss (t : Leaf K V).keys k with ⟨k', hk', he⟩ | hnf
    · obtain ⟨v, hv, hlook⟩ := leaf_present_spec (t : Leaf K V) lo hi k k' ho hk' he
      simp only [hk', he, if_true, hv, Option.map_some, hlook]
    · rw [leaf_absent_spec (t : Leaf K V) lo hi k ho hnf]
      cases hk' : (t : Leaf K V).keys[lowerBound (t : Leaf K V).keys k]? with
      | none => rfl
      | some k' => simp only [hnf k' hk', if_false]
  | succ h ih =>
    intro t lo hi k ho
    obtain ⟨c, rt⟩ := ho.route k
    unfold getRec
    simp only [rt.get]
    rw [ih c _ _ k rt.child, rt.lookup]

theorem get_spec (s : RState K V) (k : K) (hi : Inv s) : get s k = SMap.lookup (abs s) k :=
  getRec_spec s.height s.root none none k hi.ord

theorem lenRec_spec : ∀ (h : Nat) (t : Tree K V h) (lo hi : Option Int), Ordered h t lo hi → lenRec h t = (toList h t).length := by
  intro h t lo hi ho
  rw [← leaves_keys_sum h t lo hi ho]
  clear ho
  induction h with
  | zero => simp [lenRec, leaves]
  | succ h ih => rw [lenRec, leaves, List.map_flatMap, sum_flatMap]; exact congrArg _ (List.map_congr_left fun c _ => ih c)

theorem len_spec (s : RState K V) (hi : Inv s) : len s = (abs s).length :=
  lenRec_spec s.height s.root none none hi.ord

theorem setRec_spec (cap : Nat) : ∀ (h : Nat) (t : Tree K V h) (lo hi : Option Int) (k : K) (v : V) (m : Nat),
    Ordered h t lo hi → Sized cap h t m →
    Ordered h (setRec h t k v) lo hi ∧ Sized cap h (setRec h t k v) m ∧
    toList h (setRec h t k v) = SMap.adjust (toList h t) k v := by
  intro h
  induction h with
  | zero =>
    intro t lo hi k v m ho hsz
    rcases lowerBound_hit_or_miss (t : Leaf K V).keys k with ⟨k', hk', he⟩ | hnf
    · -- key present: overwriting its slot is what `insert` does to the entries
      obtain ⟨hlt, hord, hlist, hsome⟩ := leaf_set_spec (t : Leaf K V) lo hi k k' v ho hk' he
      have e : setRec 0 t k v = ({ (t : Leaf K V) with vals := setAt (t : Leaf K V).vals (lowerBound (t : Leaf K V).keys k) v } : Leaf K V) := by
        unfold setRec
        simp only [hk', he, hlt, and_self, if_true]
      rw [e, SMap.adjust_eq_insert k v (toList_sorted 0 t lo hi ho) hsome]
      exact ⟨hord, hsz, hlist⟩
    · have e : setRec 0 t k v = t := by
        unfold setRec
        simp only []
        cases hk : (t : Leaf K V).keys[lowerBound (t : Leaf K V).keys k]? with
        | none => rfl
        | some k' => exact if_neg fun h => hnf k' hk h.1
      rw [e, SMap.adjust_of_lookup_none k v (leaf_absent_spec (t : Leaf K V) lo hi k ho hnf)]
      exact ⟨ho, hsz, rfl⟩
  | succ h ih =>
    intro t lo hi k v m ho hsz
    obtain ⟨c, rt⟩ := ho.route k
    obtain ⟨h1, h2, h3⟩ := ih c _ _ k v (cap/2) rt.child (hsz.children c rt.mem)
    unfold setRec
    simp only [rt.get]
    exact ⟨rt.replace1 h1, hsz.replace1 _ h2, rt.replace1_toList (SMap.Local.adjust k v) h3⟩

theorem getMutWrite_spec (s : RState K V) (k : K) (v : V) (hi : Inv s) :
    Inv (getMutWrite s k v).1 ∧ (getMutWrite s k v).2 = (SMap.lookup (abs s) k).map (·.2) ∧
    abs (getMutWrite s k v).1 = SMap.adjust (abs s) k v ∧ (getMutWrite s k v).1.cap = s.cap := by
  unfold getMutWrite
  have hg := get_spec s k hi
  cases hget : get s k with
  | none =>
    rw [hget] at hg
    refine ⟨hi, by rw [← hg]; rfl, ?_, rfl⟩
    exact (SMap.adjust_of_lookup_none k v hg.symm).symm
  | some p =>
    rw [hget] at hg
    obtain ⟨pk, pv⟩ := p
    obtain ⟨h1, h2, h3⟩ := setRec_spec s.cap s.height s.root none none k v _ hi.ord hi.sz
    exact ⟨⟨hi.cap4, h1, h2⟩, by rw [← hg]; rfl, h3, rfl⟩

end BPT.Rust
