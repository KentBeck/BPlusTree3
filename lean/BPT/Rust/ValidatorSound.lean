import BPT.Rust.Walk
import BPT.Core.Search
/-
  The validators over ALL raw maps, characterised stage by stage: `check_node_invariants` answers `true`
  exactly when the declarative node conditions hold and it answers `true` on every child.  Soundness
  (here) and completeness on valid states (ValidatorComplete) are the two directions.
-/
namespace BPT.Rust
open BPT RawMap
variable {K V : Type} [Keyed K]

/-- what `check_node_invariants(node, min, max, is_root)` establishes -/
inductive NodeOK (m : RawMap K V) : NodeRef → Option K → Option K → Bool → Prop where
  | leaf (id : Nat) (l : RLeaf K V) (lo hi : Option K) (isRoot : Bool) :
      m.getLeaf id = some l →                                  -- the node is allocated
      l.keys.length = l.vals.length →                          -- key and value counts agree
      KSorted l.keys →                                         -- strictly ascending, no duplicates
      l.keys.length ≤ m.cap →                                  -- not above capacity
      (isRoot = false → ¬ l.keys.length < minKeys l.cap) →     -- minimum occupancy (also for empty nodes)
      (∀ a, lo = some a → ∀ k ∈ l.keys, ord a ≤ ord k) →       -- inside the interval the separators allow
      (∀ b, hi = some b → ∀ k ∈ l.keys, ord k < ord b) →
      NodeOK m (.leaf id) lo hi isRoot
  | branch (id : Nat) (b : RBranch K) (lo hi : Option K) (isRoot : Bool) :
      m.getBranch id = some b →
      b.keys.length + 1 = b.children.length →                  -- one more child than keys
      KSorted b.keys →
      b.keys.length ≤ m.cap →
      (isRoot = false → ¬ b.keys.length < minKeys b.cap) →
      (∀ i c, b.children[i]? = some c →
        NodeOK m c (if i = 0 then lo else b.keys[i-1]?) (if i = b.keys.length then hi else b.keys[i]?) false) →
      NodeOK m (.branch id) lo hi isRoot

variable {m : RawMap K V} {id : Nat} {lo hi : Option K} {isRoot : Bool}

theorem NodeOK.leaf_inv (h : NodeOK m (.leaf id) lo hi isRoot) {l : RLeaf K V} (hg : m.getLeaf id = some l) :
    l.keys.length = l.vals.length ∧ KSorted l.keys ∧ l.keys.length ≤ m.cap ∧ (isRoot = false → ¬ l.keys.length < minKeys l.cap) ∧
    (∀ a, lo = some a → ∀ k ∈ l.keys, ord a ≤ ord k) ∧ (∀ b, hi = some b → ∀ k ∈ l.keys, ord k < ord b) := by
  cases h with
  | leaf _ l' _ _ _ hg' h1 h2 h3 h4 h5 h6 => cases hg.symm.trans hg'; exact ⟨h1, h2, h3, h4, h5, h6⟩

theorem NodeOK.branch_inv (h : NodeOK m (.branch id) lo hi isRoot) {b : RBranch K} (hg : m.getBranch id = some b) :
    b.keys.length + 1 = b.children.length ∧ KSorted b.keys ∧ b.keys.length ≤ m.cap ∧ (isRoot = false → ¬ b.keys.length < minKeys b.cap) ∧
    ∀ i c, b.children[i]? = some c →
      NodeOK m c (if i = 0 then lo else b.keys[i-1]?) (if i = b.keys.length then hi else b.keys[i]?) false := by
  cases h with
  | branch _ b' _ _ _ hg' h1 h2 h3 h4 h5 => cases hg.symm.trans hg'; exact ⟨h1, h2, h3, h4, h5⟩

theorem NodeOK.child (h : NodeOK m (.branch id) lo hi isRoot) {b : RBranch K} (hg : m.getBranch id = some b) {i : Nat} {c : NodeRef}
    (hc : b.children[i]? = some c) :
    NodeOK m c (if i = 0 then lo else b.keys[i-1]?) (if i = b.keys.length then hi else b.keys[i]?) false :=
  (h.branch_inv hg).2.2.2.2 i c hc

theorem strictlySorted_iff : ∀ (ks : List K), strictlySorted ks = true ↔ KSorted ks
  | [] => ⟨fun _ => .nil, fun _ => rfl⟩
  | [_] => ⟨fun _ => List.pairwise_singleton _ _, fun _ => rfl⟩
  | a :: b :: rest => by
    rw [strictlySorted, Bool.and_eq_true, decide_eq_true_eq, strictlySorted_iff (b :: rest)]
    constructor
    · -- adjacent pairs suffice: `a < b` and `b` below the rest put `a` below the rest
      rintro ⟨hab, hs⟩
      refine List.pairwise_cons.2 ⟨fun x hx => ?_, hs⟩
      rcases List.mem_cons.1 hx with rfl | hx
      · exact hab
      · exact Int.lt_trans hab ((List.pairwise_cons.1 hs).1 x hx)
    · intro h
      exact ⟨(List.pairwise_cons.1 h).1 b List.mem_cons_self, (List.pairwise_cons.1 h).2⟩

theorem allRes_eq_true {α : Type} {p : α → Res Bool} : ∀ {l : List α}, allRes p l = .ok true ↔ ∀ a ∈ l, p a = .ok true
  | [] => by simp [allRes]
  | x :: xs => by
    rw [allRes, List.forall_mem_cons, ← allRes_eq_true (l := xs), Res.bind_eq_ok_iff]
    constructor
    · rintro ⟨b, hx, h⟩
      cases b with
      | false => cases h
      | true => exact ⟨hx, h⟩
    · rintro ⟨hx, h⟩; exact ⟨true, hx, h⟩

theorem ite_ok_false {c : Prop} [Decidable c] {x : Res Bool} : (if c then .ok false else x) = .ok true ↔ ¬ c ∧ x = .ok true :=
  Res.ite_ok_iff Bool.false_ne_true

/-- `for (i, child) in children.iter().enumerate() { if !p(i, child) { return false } }` -/
theorem allRes_enum {α : Type} {p : Nat × α → Res Bool} {l : List α} :
    allRes p ((List.range l.length).zip l) = .ok true ↔ ∀ i c, l[i]? = some c → p (i, c) = .ok true := by
  rw [allRes_eq_true, Prod.forall]
  refine forall_congr' fun i => forall_congr' fun c => imp_congr_left ?_
  -- `(i, c)` is in the zip exactly when it sits at some index `j`, and there `range` has put `i = j`
  rw [List.mem_iff_getElem?]
  constructor
  · rintro ⟨j, hj⟩
    obtain ⟨h1, h2⟩ := List.getElem?_zip_eq_some.1 hj
    rw [List.getElem?_range (lt_of_getElem?_eq_some h2)] at h1
    cases h1; exact h2
  · intro h
    exact ⟨i, List.getElem?_zip_eq_some.2 ⟨List.getElem?_range (lt_of_getElem?_eq_some h), h⟩⟩

theorem lo_check_false (ks : List K) (lo : Option K) : (∀ k ∈ ks, ∀ mn, lo = some mn → ord mn ≤ ord k) →
    (match lo, ks.head? with | some mn, some fk => decide (ord fk < ord mn) | _, _ => false) = false := by
  intro h
  cases lo with
  | none => rfl
  | some mn =>
    cases hh : ks.head? with
    | none => rfl
    | some fk =>
      have := h fk (List.mem_of_mem_head? hh) mn rfl
      simp; omega

theorem hi_check_false (ks : List K) (hi : Option K) : (∀ k ∈ ks, ∀ mx, hi = some mx → ord k < ord mx) →
    (match hi, ks.getLast? with | some mx, some lk => decide (ord lk ≥ ord mx) | _, _ => false) = false := by
  intro h
  cases hi with
  | none => rfl
  | some mx =>
    cases hh : ks.getLast? with
    | none => rfl
    | some lk =>
      have := h lk (List.mem_of_getLast? hh) mx rfl
      simp; omega

theorem lo_check {ks : List K} (hs : KSorted ks) {lo : Option K} :
    ¬ (match lo, ks.head? with | some mn, some fk => decide (ord fk < ord mn) | _, _ => false) = true ↔
      ∀ a, lo = some a → ∀ k ∈ ks, ord a ≤ ord k := by
  refine ⟨fun h a ha k hk => ?_, fun h => by rw [lo_check_false ks lo fun k hk mn hmn => h mn hmn k hk]; nofun⟩
  subst ha
  cases ks with
  | nil => cases hk
  | cons fk rest =>
    have hfk : ¬ ord fk < ord a := by simpa using h
    rcases List.mem_cons.1 hk with rfl | hk
    · omega
    · have := (List.pairwise_cons.1 hs).1 k hk
      omega

theorem hi_check {ks : List K} (hs : KSorted ks) {hi : Option K} :
    ¬ (match hi, ks.getLast? with | some mx, some lk => decide (ord lk ≥ ord mx) | _, _ => false) = true ↔
      ∀ b, hi = some b → ∀ k ∈ ks, ord k < ord b := by
  refine ⟨fun h b hb k hk => ?_, fun h => by rw [hi_check_false ks hi fun k hk mx hmx => h mx hmx k hk]; nofun⟩
  subst hb
  obtain ⟨front, lk, rfl⟩ : ∃ front lk, ks = front ++ [lk] :=
    ⟨ks.dropLast, ks.getLast (List.ne_nil_of_mem hk), (List.dropLast_concat_getLast _).symm⟩
  have hlk : ¬ ord lk ≥ ord b := by simpa using h
  rcases List.mem_append.1 hk with hk | hk
  · have := (List.pairwise_append.1 hs).2.2 k hk lk List.mem_cons_self
    omega
  · cases List.mem_singleton.1 hk; omega

/-- the occupancy test of the repaired code (D3: it no longer exempts empty nodes) -/
theorem underfull_check {isRoot : Bool} {e : Prop} (cap n : Nat) :
    ¬ ((Cfg.repaired.validatorChecksEmpty = true ∨ e) ∧ isUnderfull cap n = true ∧ ¬ isRoot = true) ↔
      (isRoot = false → ¬ n < minKeys cap) := by
  cases isRoot <;> simp [Cfg.repaired, isUnderfull]

-- each `if test { return false }` of `check_node_invariants` becomes the conjunct "the test did not fire" (`ite_ok_false`)

variable {f : Nat}

theorem checkNode_leaf : m.checkNode Cfg.repaired (f+1) (.leaf id) lo hi isRoot = .ok true ↔ NodeOK m (.leaf id) lo hi isRoot := by
  unfold checkNode
  cases hg : m.getLeaf id with
  | none => exact ⟨fun h => (nomatch h), fun h => by cases h with | leaf _ _ _ _ _ hg' => rw [hg] at hg'; cases hg'⟩
  | some l =>
    simp only [ite_ok_false, Classical.not_not, strictlySorted_iff, underfull_check, and_true]
    constructor
    · rintro ⟨c1, c2, c3, c4, c5, c6⟩
      exact .leaf id l lo hi isRoot hg c1 c2 (Nat.le_of_not_lt c3) c4 ((lo_check c2).1 c5) ((hi_check c2).1 c6)
    · intro h
      cases h with
      | leaf _ l' _ _ _ hg' c1 c2 c3 c4 c5 c6 =>
        cases hg.symm.trans hg'
        exact ⟨c1, c2, Nat.not_lt.2 c3, c4, (lo_check c2).2 c5, (hi_check c2).2 c6⟩

theorem checkNode_branch : m.checkNode Cfg.repaired (f+1) (.branch id) lo hi isRoot = .ok true ↔
    ∃ b, m.getBranch id = some b ∧ b.keys.length + 1 = b.children.length ∧ KSorted b.keys ∧ b.keys.length ≤ m.cap ∧
      (isRoot = false → ¬ b.keys.length < minKeys b.cap) ∧
      ∀ i c, b.children[i]? = some c →
        m.checkNode Cfg.repaired f c (if i = 0 then lo else b.keys[i-1]?) (if i = b.keys.length then hi else b.keys[i]?) false = .ok true := by
  rw [checkNode]
  cases hg : m.getBranch id with
  | none => exact ⟨fun h => (nomatch h), fun ⟨_, h, _⟩ => (nomatch h)⟩
  | some b =>
    simp only [ite_ok_false, Classical.not_not, strictlySorted_iff, underfull_check, allRes_enum,
      Option.some.injEq, exists_eq_left', gt_iff_lt, Nat.not_lt (a := m.cap)]
    refine and_congr_right fun hlen => and_congr_right fun _ => and_congr_right fun _ => and_congr_right fun _ => ?_
    -- `children.is_empty()` cannot hold once the child count is the key count plus one
    refine and_iff_right_of_imp fun _ he => ?_
    rw [List.isEmpty_iff.1 he] at hlen
    cases hlen

/-- soundness of `check_node_invariants` (repaired code), for every raw map -/
theorem checkNode_sound (m : RawMap K V) : ∀ (f : Nat) (n : NodeRef) (lo hi : Option K) (isRoot : Bool),
    m.checkNode Cfg.repaired f n lo hi isRoot = .ok true → NodeOK m n lo hi isRoot := by
  intro f
  induction f with
  | zero => intro _ _ _ _ h; cases h
  | succ f ih =>
    intro n lo hi isRoot h
    cases n with
    | leaf id => exact checkNode_leaf.1 h
    | branch id =>
      obtain ⟨b, hg, c1, c2, c3, c4, hch⟩ := checkNode_branch.1 h
      exact .branch id b lo hi isRoot hg c1 c2 c3 c4 fun i c hc => ih c _ _ false (hch i c hc)

/-- `check_invariants() = true` ⇒ the reachable part of the map is node-valid -/
theorem checkInvariants_sound (m : RawMap K V) (h : m.checkInvariants Cfg.repaired = .ok true) : NodeOK m m.root none none true :=
  checkNode_sound m _ _ _ _ _ h

theorem NodeOK.of_reach {m : RawMap K V} (hroot : NodeOK m m.root none none true) {n : NodeRef} {r : Bool} (hr : Reach m n r) :
    ∃ lo hi, NodeOK m n lo hi r := by
  induction hr with
  | root => exact ⟨none, none, hroot⟩
  | child id b r i c _ hg hc ih =>
    obtain ⟨lo, hi, hok⟩ := ih
    exact ⟨_, _, hok.child hg hc⟩

/-- the stages: node invariants; iterator keys sorted and as many as `len`; arena counts; chain ids against tree ids -/
theorem checkDetailed_ok_iff {cfg : Cfg} {m : RawMap K V} : m.checkDetailed cfg = .ok none ↔
    m.checkInvariants cfg = .ok true ∧
    (∃ ks, m.keys cfg = .ok ks ∧ strictlySorted ks = true ∧ m.len = .ok ks.length) ∧
    (∃ cnt, m.countNodes = .ok cnt ∧ cnt.1 = m.leaves.len ∧ cnt.2 = m.branches.len) ∧
    (∃ tids first cids, m.leafIds = .ok tids ∧ m.firstLeaf = .ok first ∧ m.chainIds m.fuel first = .ok cids ∧
      sortNat tids = sortNat cids) := by
  -- unfolded: a nested chain of "this call returned and its test passed", regrouped below
  simp only [checkDetailed, Res.bind_eq_ok_iff, Res.ite_ok_iff (Option.some_ne_none _), Decidable.not_not, and_true]
  constructor
  · rintro ⟨_, h1, rfl, ks, h2, c2, _, h3, rfl, cnt, h4, c4, c5, tids, h5, first, h6, cids, h7, c6⟩
    exact ⟨h1, ⟨ks, h2, c2, h3⟩, ⟨cnt, h4, c4, c5⟩, tids, first, cids, h5, h6, h7, c6⟩
  · rintro ⟨h1, ⟨ks, h2, c2, h3⟩, ⟨cnt, h4, c4, c5⟩, tids, first, cids, h5, h6, h7, c6⟩
    exact ⟨_, h1, rfl, ks, h2, c2, _, h3, rfl, cnt, h4, c4, c5, tids, h5, first, h6, cids, h7, c6⟩

end BPT.Rust
