import BPT.C.Gc
/-
  `BPlusTree_dealloc` as the code has it: two passes over the same slots.

      BPlusTree_clear(self);                      // pass 1: node_gc_op(root, NULL, NULL, 1): Py_CLEAR on every slot
      if (self->root) node_destroy(self->root);   // pass 2: Py_XDECREF on every slot, then free the node

  `Model.dealloc` states the net effect ("every slot is released once").  Here the passes are transcribed with nullable
  slots and the net effect is derived: one release per slot *because* `Py_CLEAR` stores NULL before it releases and
  `Py_XDECREF` skips NULL; with a plain `Py_DECREF` in pass 1 every reference would be released twice.

  `deallocTwoPass` runs pass 2 over the slot sequence pass 1 (`gcVisit`) left behind: that `node_destroy` addresses
  exactly those slots in that order (`destroyVisit_eq_gcVisit`) entitles it to, and is not otherwise called on.
-/
namespace BPT.C
open BPT Tree

variable {K V : Type} [Keyed K]

/-- `node_destroy(node)`: the slots `Py_XDECREF` is applied to, in order — its loops, by index, as written -/
def destroyVisit : (h : Nat) → Tree K V h → List (Obj K V)
  | 0, (l : Leaf K V) =>
      visitSlots l.keys.length l.keys Obj.key ++ visitSlots l.keys.length l.vals Obj.val
  | h+1, (b : Branch K (Tree K V h)) =>
      visitSlots b.keys.length b.keys Obj.key ++ visitChildren b.keys.length b.children (destroyVisit h)

omit [Keyed K] in
theorem destroyVisit_eq_gcVisit : ∀ (h : Nat) (t : Tree K V h), destroyVisit h t = gcVisit h t
  | 0, _ => rfl
  | h+1, (b : Branch K (Tree K V h)) => by
    show visitSlots _ _ _ ++ visitChildren _ _ (destroyVisit h) = visitSlots _ _ _ ++ visitChildren _ _ (gcVisit h)
    have : (destroyVisit h : Tree K V h → List (Obj K V)) = gcVisit h := funext (destroyVisit_eq_gcVisit h)
    rw [this]

/-- `Py_CLEAR(slot)`: `tmp = slot; if (tmp) { slot = NULL; Py_DECREF(tmp); }` — released objects, new slot content -/
def pyClear {α : Type} (slot : Option α) : List α × Option α := (slot.toList, none)

/-- `Py_XDECREF(slot)`: released objects (NULL is skipped); the slot is not written -/
def pyXDecref {α : Type} (slot : Option α) : List α := slot.toList

/-- pass 1: everything released, and what the slots hold afterwards -/
def clearPass {α : Type} (ss : List (Option α)) : List α × List (Option α) :=
  (ss.flatMap fun s => (pyClear s).1, ss.map fun s => (pyClear s).2)

/-- pass 2 -/
def destroyPass {α : Type} (ss : List (Option α)) : List α := ss.flatMap pyXDecref

/-- `BPlusTree_dealloc`: the slots start out holding the tree's objects; pass 2 meets them as pass 1 left them -/
def deallocTwoPass (s : CState K V) : Evs K V :=
  let ss := (gcVisit s.height s.root).map some
  let p1 := clearPass ss
  { dec := p1.1 ++ destroyPass p1.2 }

theorem clearPass_some {α : Type} (xs : List α) :
    clearPass (xs.map some) = (xs, xs.map fun _ => none) := by
  simp [clearPass, pyClear, List.flatMap_map]

theorem destroyPass_none {α β : Type} (xs : List β) : destroyPass (xs.map fun _ => (none : Option α)) = [] := by
  simp [destroyPass, pyXDecref, List.flatMap_map]

theorem deallocTwoPass_eq_dealloc (s : CState K V) (hi : CInv s) : deallocTwoPass s = dealloc s := by
  unfold deallocTwoPass dealloc
  simp only [clearPass_some, destroyPass_none, List.append_nil]
  rw [show gcVisit s.height s.root = slots s from gcTraverse_eq_slots s hi]

/-- what `Py_CLEAR`'s NULL store is for: a first pass that releases without nulling -/
def clearPassNoNull {α : Type} (ss : List (Option α)) : List α × List (Option α) :=
  (ss.flatMap fun s => (pyClear s).1, ss)

theorem destroyPass_some {α : Type} (xs : List α) : destroyPass (xs.map some) = xs := by
  simp [destroyPass, pyXDecref, List.flatMap_map]

theorem dealloc_without_nulling_releases_twice (s : CState K V) (hi : CInv s) :
    (clearPassNoNull ((gcVisit s.height s.root).map some)).1 ++
      destroyPass (clearPassNoNull ((gcVisit s.height s.root).map some)).2 = slots s ++ slots s := by
  have h1 : (clearPassNoNull ((gcVisit s.height s.root).map some)).1 = gcVisit s.height s.root := by
    simp [clearPassNoNull, pyClear, List.flatMap_map]
  rw [h1]
  simp only [clearPassNoNull, destroyPass_some]
  rw [show gcVisit s.height s.root = slots s from gcTraverse_eq_slots s hi]

end BPT.C
