import BPT.Core.Tree
import BPT.Core.Res
/-
  Executable model of the pure-Python BPlusTreeMap (python/bplustree/bplus_tree.py).
  Import-free apart from BPT core files.

  * same height-indexed tree as the Rust model; leaves carry a creation serial `id`
    (Python object identity, starting at 1) and `next` = the serial of the next leaf (`noneId` = 0 = None);
    branch ids are unused (0);
  * `none` = the Python code raises something other than KeyError at this point
    (ValueError of the defensive checks, IndexError).
-/
namespace BPT.Py
open BPT

def minCapacity : Nat := 4
/-- `None` in a `next` field / `self.leaves`; leaf serials start at 1 and only grow, so they never collide with it -/
def noneId : Nat := 0
/-- `(capacity - 1) // 2` -/
def minKeys (cap : Nat) : Nat := (cap - 1) / 2
def isFull (cap n : Nat) : Bool := decide (n ≥ cap)
def isUnderfull (cap n : Nat) : Bool := decide (n < minKeys cap)
def canDonate (cap n : Nat) : Bool := decide (n > minKeys cap)
/-- `len(self.keys) // 2`, split point of leaves and branches -/
def splitMid (n : Nat) : Nat := n / 2

/-- switches between the repaired code (all `true`) and the code as found, for D6 and D8 -/
structure Cfg where
  getChecksPresence : Bool := true     -- D6: get() decides presence by position, not by `value is not None`
  emptyShortcutLeafOnly : Bool := true -- D8: the "empty child → merge only" shortcut applies to leaves only
def Cfg.repaired : Cfg := {}

variable {K V : Type} [Keyed K]

/-! ## insert -/

inductive InsRes (K V : Type) (h : Nat) where
  | updated (t : Tree K V h)
  | split (l r : Tree K V h) (sep : K)

/-- `LeafNode.split_and_insert`: split at `len//2`, then insert into the half chosen by comparing with the right half's first key -/
def splitLeafInsert (l : Leaf K V) (k : K) (v : V) (newId : Nat) : Option (InsRes K V 0) :=
  let mid := splitMid l.keys.length
  let lk := l.keys.take mid
  let lv := l.vals.take mid
  let rk := l.keys.drop mid
  let rv := l.vals.drop mid
  match rk.head? with
  | none => none                                   -- `new_leaf.keys[0]` IndexError
  | some r0 =>
    if ord k < ord r0 then
      let i := lowerBound lk k
      some (.split ({ id := l.id, keys := insertAt lk i k, vals := insertAt lv i v, next := newId } : Leaf K V)
                   ({ id := newId, keys := rk, vals := rv, next := l.next } : Leaf K V) r0)
    else
      let i := lowerBound rk k
      match (insertAt rk i k).head? with
      | none => none
      | some sep =>
        some (.split ({ id := l.id, keys := lk, vals := lv, next := newId } : Leaf K V)
                     ({ id := newId, keys := insertAt rk i k, vals := insertAt rv i v, next := l.next } : Leaf K V) sep)

/-- `_insert_into_leaf`; returns the result and whether a new leaf id was consumed -/
def insertLeaf (cap : Nat) (l : Leaf K V) (k : K) (v : V) (newId : Nat) : Option (InsRes K V 0 × Bool) :=
  let i := lowerBound l.keys k
  let found : Bool := match l.keys[i]? with
    | some k' => ord k' = ord k
    | none => false
  if found then
    if i < l.vals.length then some (.updated ({ l with vals := setAt l.vals i v } : Leaf K V), false)
    else none                                      -- `leaf.values[pos] = value` IndexError
  else if ¬ isFull cap l.keys.length then
    some (.updated ({ l with keys := insertAt l.keys i k, vals := insertAt l.vals i v } : Leaf K V), false)
  else (splitLeafInsert l k v newId).map (fun r => (r, true))

/-- `insert_child_and_split_if_needed` after the child split into `(l, r)` around `sep` -/
def branchInsertSplit (cap : Nat) (b : Branch K α) (i : Nat) (l r : α) (sep : K) : Option (Branch K α ⊕ (Branch K α × Branch K α × K)) :=
  let keys := insertAt b.keys i sep
  let children := insertAt (setAt b.children i l) (i+1) r
  if ¬ isFull cap keys.length then some (.inl { b with keys := keys, children := children })
  else
    let mid := splitMid keys.length
    match keys[mid]? with
    | none => none
    | some pk =>
      some (.inr ({ id := b.id, keys := keys.take mid, children := children.take (mid+1) },
                  { id := 0, keys := keys.drop (mid+1), children := children.drop (mid+1) }, pk))

/-- `_insert_recursive`; threads the next fresh leaf serial -/
def insertRec (cap : Nat) : (h : Nat) → Tree K V h → K → V → Nat → Option (InsRes K V h × Nat)
  | 0, (l : Leaf K V), k, v, nid =>
    (insertLeaf cap l k v nid).map (fun r => (r.1, if r.2 then nid + 1 else nid))
  | h+1, (b : Branch K (Tree K V h)), k, v, nid =>
    if b.children.length = 0 ∨ b.keys.length + 1 ≠ b.children.length then none else   -- find_child_index ValueError
    let i := upperBound b.keys k
    match b.children[i]? with
    | none => none
    | some c =>
      match insertRec cap h c k v nid with
      | none => none
      | some (.updated c', nid') =>
        some (.updated ({ b with children := setAt b.children i c' } : Branch K (Tree K V h)), nid')
      | some (.split l r sep, nid') =>
        match branchInsertSplit cap b i l r sep with
        | none => none
        | some (.inl b') => some (.updated (b' : Branch K (Tree K V h)), nid')
        | some (.inr (bl, br, pk)) => some (.split (bl : Branch K (Tree K V h)) br pk, nid')

/-! ## delete -/

/-- leaf borrows the last entry of its left sibling; new separator = the borrower's first key -/
def leafBorrowLeft (a c : Leaf K V) : Option (Leaf K V × Leaf K V × K) :=
  match a.keys.getLast?, a.vals.getLast? with
  | some k, some v =>
    some ({ a with keys := a.keys.dropLast, vals := a.vals.dropLast }, { c with keys := k :: c.keys, vals := v :: c.vals }, k)
  | _, _ => none
/-- leaf borrows the first entry of its right sibling; new separator = the sibling's new first key -/
def leafBorrowRight (c r : Leaf K V) : Option (Leaf K V × Leaf K V × K) :=
  match r.keys, r.vals with
  | k :: ks, v :: vs =>
    (ks.head?).map fun sep => ({ c with keys := c.keys ++ [k], vals := c.vals ++ [v] }, { r with keys := ks, vals := vs }, sep)
  | _, _ => none
def leafMerge (a b : Leaf K V) : Leaf K V :=
  { a with keys := a.keys ++ b.keys, vals := a.vals ++ b.vals, next := b.next }

def branchBorrowLeft (a c : Branch K α) (sep : K) : Option (Branch K α × Branch K α × K) :=
  match a.keys.getLast?, a.children.getLast? with
  | some mk, some mc =>
    some ({ a with keys := a.keys.dropLast, children := a.children.dropLast },
          { c with keys := sep :: c.keys, children := mc :: c.children }, mk)
  | _, _ => none
def branchBorrowRight (c r : Branch K α) (sep : K) : Option (Branch K α × Branch K α × K) :=
  match r.keys, r.children with
  | mk :: ks, mc :: cs =>
    some ({ c with keys := c.keys ++ [sep], children := c.children ++ [mc] }, { r with keys := ks, children := cs }, mk)
  | _, _ => none
def branchMerge (a b : Branch K α) (sep : K) : Branch K α :=
  { a with keys := a.keys ++ sep :: b.keys, children := a.children ++ b.children }

def replace2 (b : Branch K α) (i : Nat) (l r : α) (sep : K) : Branch K α :=
  { b with keys := setAt b.keys i sep, children := setAt (setAt b.children i l) (i+1) r }
def merge2 (b : Branch K α) (i : Nat) (m : α) : Branch K α :=
  { b with keys := removeAt b.keys i, children := removeAt (setAt b.children i m) (i+1) }

/-- `_merge_with_sibling` for a leaf child (prefers the left sibling; guarded by capacity) -/
def mergeLeafSibling (cap : Nat) (b : Branch K (Leaf K V)) (i : Nat) : Option (Branch K (Leaf K V)) :=
  if b.keys.length + 1 ≠ b.children.length then none else       -- "Parent structure invalid"
  match b.children[i]? with
  | none => none
  | some c =>
    if i > 0 then
      match b.children[i-1]? with
      | none => none
      | some a => if a.keys.length + c.keys.length ≤ cap then some (merge2 b (i-1) (leafMerge a c)) else some b
    else if i + 1 < b.children.length then
      match b.children[i+1]? with
      | none => none
      | some r => if c.keys.length + r.keys.length ≤ cap then some (merge2 b i (leafMerge c r)) else some b
    else some b

def mergeBranchSibling (cap : Nat) (b : Branch K (Branch K α)) (i : Nat) : Option (Branch K (Branch K α)) :=
  if b.keys.length + 1 ≠ b.children.length then none else
  match b.children[i]? with
  | none => none
  | some c =>
    if i > 0 then
      match b.children[i-1]?, b.keys[i-1]? with
      | some a, some sep =>
        if a.keys.length + c.keys.length + 1 ≤ cap ∧ a.children.length + c.children.length ≤ cap + 1
        then some (merge2 b (i-1) (branchMerge a c sep)) else some b
      | _, _ => none
    else if i + 1 < b.children.length then
      match b.children[i+1]?, b.keys[i]? with
      | some r, some sep =>
        if c.keys.length + r.keys.length + 1 ≤ cap ∧ c.children.length + r.children.length ≤ cap + 1
        then some (merge2 b i (branchMerge c r sep)) else some b
      | _, _ => none
    else some b

/-- the siblings `_handle_underflow` looks at -/
def sibRight (b : Branch K α) (i : Nat) : Option α := if i + 1 < b.children.length then b.children[i+1]? else none
def sibLeft (b : Branch K α) (i : Nat) : Option α := if i > 0 then b.children[i-1]? else none

/-- `_redistribute_from_right`, leaf case: child `i` takes the first entry of child `i+1` -/
def leafBorrowRightAt (b : Branch K (Leaf K V)) (i : Nat) (c r : Leaf K V) : Option (Branch K (Leaf K V)) :=
  match leafBorrowRight c r with
  | none => none
  | some (c', r', sep) => if i < b.keys.length then some (replace2 b i c' r' sep) else none
/-- `_redistribute_from_left`, leaf case: child `i` takes the last entry of child `i-1` -/
def leafBorrowLeftAt (b : Branch K (Leaf K V)) (i : Nat) (a c : Leaf K V) : Option (Branch K (Leaf K V)) :=
  match leafBorrowLeft a c with
  | none => none
  | some (a', c', sep) => if i - 1 < b.keys.length then some (replace2 b (i-1) a' c' sep) else none

/-- second half of `_handle_underflow` (leaf child): the right sibling did not donate -/
def handleLeafLeft (cap : Nat) (b : Branch K (Leaf K V)) (i : Nat) (c : Leaf K V) : Option (Branch K (Leaf K V)) :=
  match sibLeft b i with
  | some a => if canDonate cap a.keys.length then leafBorrowLeftAt b i a c else mergeLeafSibling cap b i
  | none => mergeLeafSibling cap b i

/-- `_handle_underflow` for a leaf child -/
def handleLeaf (cap : Nat) (b : Branch K (Leaf K V)) (i : Nat) : Option (Branch K (Leaf K V)) :=
  match b.children[i]? with
  | none => none
  | some c =>
    if ¬ isUnderfull cap c.keys.length then some b
    else if c.keys.length = 0 then mergeLeafSibling cap b i
    else
      match sibRight b i with
      | some r => if canDonate cap r.keys.length then leafBorrowRightAt b i c r else handleLeafLeft cap b i c
      | none => handleLeafLeft cap b i c

/-- `_redistribute_from_right`, branch case -/
def branchBorrowRightAt (b : Branch K (Branch K α)) (i : Nat) (c r : Branch K α) : Option (Branch K (Branch K α)) :=
  match b.keys[i]? with
  | none => none
  | some sep => (branchBorrowRight c r sep).map fun (c', r', mk) => replace2 b i c' r' mk
/-- `_redistribute_from_left`, branch case -/
def branchBorrowLeftAt (b : Branch K (Branch K α)) (i : Nat) (a c : Branch K α) : Option (Branch K (Branch K α)) :=
  match b.keys[i-1]? with
  | none => none
  | some sep => (branchBorrowLeft a c sep).map fun (a', c', mk) => replace2 b (i-1) a' c' mk

def handleBranchLeft (cap : Nat) (b : Branch K (Branch K α)) (i : Nat) (c : Branch K α) : Option (Branch K (Branch K α)) :=
  match sibLeft b i with
  | some a => if canDonate cap a.keys.length then branchBorrowLeftAt b i a c else mergeBranchSibling cap b i
  | none => mergeBranchSibling cap b i

/-- `_handle_underflow` for a branch child -/
def handleBranch (cfg : Cfg) (cap : Nat) (b : Branch K (Branch K α)) (i : Nat) : Option (Branch K (Branch K α)) :=
  match b.children[i]? with
  | none => none
  | some c =>
    if ¬ isUnderfull cap c.keys.length then some b
    else if c.keys.length = 0 ∧ ¬ cfg.emptyShortcutLeafOnly then mergeBranchSibling cap b i
    else
      match sibRight b i with
      | some r => if canDonate cap r.keys.length then branchBorrowRightAt b i c r else handleBranchLeft cap b i c
      | none => handleBranchLeft cap b i c

def handleUnderflow (cfg : Cfg) (cap : Nat) : (h : Nat) → Branch K (Tree K V h) → Nat → Option (Branch K (Tree K V h))
  | 0, b, i => handleLeaf cap b i
  | _+1, b, i => handleBranch cfg cap b i

def nkeys : (h : Nat) → Tree K V h → Nat
  | 0, (l : Leaf K V) => l.keys.length
  | _+1, (b : Branch K (Tree K V _)) => b.keys.length

/-- `_delete_recursive` (without the root collapse at the end of its root frame: `collapseRoot`, applied by `delitem`) -/
def deleteRec (cfg : Cfg) (cap : Nat) : (h : Nat) → Tree K V h → K → Option (Tree K V h × Bool)
  | 0, (l : Leaf K V), k =>
    let i := lowerBound l.keys k
    let found : Bool := match l.keys[i]? with
      | some k' => ord k' = ord k
      | none => false
    if found then
      if i < l.vals.length then some (({ l with keys := removeAt l.keys i, vals := removeAt l.vals i } : Leaf K V), true)
      else none
    else some ((l : Leaf K V), false)
  | h+1, (b : Branch K (Tree K V h)), k =>
    if b.children.length = 0 ∨ b.keys.length + 1 ≠ b.children.length then none else
    let i := upperBound b.keys k
    match b.children[i]? with
    | none => none
    | some c =>
      match deleteRec cfg cap h c k with
      | none => none
      | some (c', false) => some (({ b with children := setAt b.children i c' } : Branch K (Tree K V h)), false)
      | some (c', true) =>
        let b1 : Branch K (Tree K V h) := { b with children := setAt b.children i c' }
        if nkeys h c' = 0 ∨ isUnderfull cap (nkeys h c') then
          (handleUnderflow cfg cap h b1 i).map fun b2 => ((b2 : Branch K (Tree K V h)), true)
        else some ((b1 : Branch K (Tree K V h)), true)

/-! ## state and the mapping API -/

structure PState (K V : Type) where
  cap : Nat
  height : Nat
  root : Tree K V height
  head : Nat               -- `self.leaves`: serial of the first leaf of the chain
  nextId : Nat
  cache : Option Nat := none   -- `_rightmost_leaf_cache`

def emptyLeaf (id : Nat) : Leaf K V := { id := id, keys := [], vals := [], next := noneId }

/-- `BPlusTreeMap(capacity)`; `none` = InvalidCapacityError -/
def new (cap : Nat) : Option (PState K V) :=
  if cap < minCapacity then none
  else some { cap := cap, height := 0, root := (emptyLeaf 1 : Leaf K V), head := 1, nextId := 2 }

/-- `clear()`: a fresh leaf (the serial keeps growing: new Python object) -/
def clear (s : PState K V) : PState K V :=
  { cap := s.cap, height := 0, root := (emptyLeaf s.nextId : Leaf K V), head := s.nextId, nextId := s.nextId + 1 }

/-- `__setitem__` -/
def setitem (s : PState K V) (k : K) (v : V) : Option (PState K V) :=
  match insertRec s.cap s.height s.root k v s.nextId with
  | none => none
  | some (.updated t, nid) => some { s with root := t, nextId := nid }
  | some (.split l r sep, nid) =>
    let root : Branch K (Tree K V s.height) := { id := 0, keys := [sep], children := [l, r] }
    some { cap := s.cap, height := s.height + 1, root := root, head := s.head, nextId := nid, cache := s.cache }

/-- root collapse at the end of the root frame of `_delete_recursive`:
    `if node == self.root and not node.is_leaf() and len(node.children) == 1: self.root = node.children[0]` -/
def collapseRoot : (h : Nat) → Tree K V h → (Σ h', Tree K V h')
  | 0, t => ⟨0, t⟩
  | h+1, (b : Branch K (Tree K V h)) =>
    match b.children with
    | [c] => ⟨h, c⟩
    | _ => ⟨h+1, (b : Branch K (Tree K V h))⟩

/-- `__delitem__`: `some (s', false)` = KeyError -/
def delitem (cfg : Cfg) (s : PState K V) (k : K) : Option (PState K V × Bool) :=
  match deleteRec cfg s.cap s.height s.root k with
  | none => none
  | some (t, false) => some ({ s with root := t }, false)
  | some (t, true) =>
    some ({ cap := s.cap, height := (collapseRoot s.height t).1, root := (collapseRoot s.height t).2,
            head := s.head, nextId := s.nextId, cache := s.cache }, true)

/-- lookup of the stored entry: the descent of `get` / `__contains__` -/
def findRec : (h : Nat) → Tree K V h → K → Option (Option (K × V))
  | 0, (l : Leaf K V), k =>
    let i := lowerBound l.keys k
    match l.keys[i]? with
    | some k' => if ord k' = ord k then (match l.vals[i]? with | some v => some (some (k', v)) | none => none) else some none
    | none => some none
  | h+1, (b : Branch K (Tree K V h)), k =>
    if b.children.length = 0 ∨ b.keys.length + 1 ≠ b.children.length then none else
    match b.children[upperBound b.keys k]? with
    | none => none
    | some c => findRec h c k

/-! ## readers that walk the chain from `self.leaves` -/

def findLeafById (ls : List (Leaf K V)) (id : Nat) : Option (Leaf K V) := ls.find? (fun l => l.id == id)

/-- the chain of leaves from serial `id`, following `next` (fuel = number of leaves + 1; running out = cycle) -/
def chainFrom (ls : List (Leaf K V)) : Nat → Nat → Res (List (Leaf K V))
  | 0, _ => .diverge
  | f+1, id =>
    if id = noneId then .ok []
    else match findLeafById ls id with
      | none => .panic                      -- dangling reference cannot happen in Python (objects stay alive); model artefact
      | some l => (chainFrom ls f l.next).map (l :: ·)

def chain (s : PState K V) : Res (List (Leaf K V)) :=
  chainFrom (Tree.leaves s.height s.root) ((Tree.leaves s.height s.root).length + 1) s.head

/-- `__len__` -/
def len (s : PState K V) : Res Nat := (chain s).map fun c => (c.map (fun l => l.keys.length)).sum

/-- the leaf `_find_leaf_for_key` reaches -/
def routeLeaf : (h : Nat) → Tree K V h → K → Option (Leaf K V)
  | 0, (l : Leaf K V), _ => some l
  | h+1, (b : Branch K (Tree K V h)), k =>
    if b.children.length = 0 ∨ b.keys.length + 1 ≠ b.children.length then none else
    match b.children[upperBound b.keys k]? with
    | some c => routeLeaf h c k
    | none => none

/-- the exclusive end test of `items`: stop at the first key `>= end_key` -/
def cutStop (stop : Option K) (all : List (K × V)) : List (K × V) :=
  match stop with
  | none => all
  | some e => all.takeWhile (fun kv => decide (ord kv.1 < ord e))

/-- the scan of `items`: from index `idx` of the leaf with serial `id`, along the chain -/
def itemsFrom (s : PState K V) (id idx : Nat) (stop : Option K) : Res (List (K × V)) :=
  (chainFrom (Tree.leaves s.height s.root) ((Tree.leaves s.height s.root).length + 1) id).map fun c =>
    cutStop stop (match c with
      | [] => []
      | l :: rest => (l.keys.zip l.vals).drop idx ++ rest.flatMap (fun l => l.keys.zip l.vals))

/-- `items(start_key, end_key)` -/
def items (s : PState K V) (start stop : Option K) : Res (List (K × V)) :=
  match start with
  | none => itemsFrom s s.head 0 stop
  | some a =>
    match routeLeaf s.height s.root a with
    | none => .panic
    | some l => itemsFrom s l.id (lowerBound l.keys a) stop

/-! ## bulk load -/

/-- in-place modification of the leaf object with serial `id` -/
def mapLeaf (id : Nat) (f : Leaf K V → Leaf K V) : (h : Nat) → Tree K V h → Tree K V h
  | 0, (l : Leaf K V) => if l.id = id then f l else l
  | h+1, (b : Branch K (Tree K V h)) => ({ b with children := b.children.map (mapLeaf id f h) } : Branch K (Tree K V h))

/-- `_update_rightmost_leaf_cache`: the last leaf of the chain -/
def lastOfChain (s : PState K V) : Res (Option Nat) := (chain s).map fun c => c.getLast?.map (·.id)

def appendKV (k : K) (v : V) (l : Leaf K V) : Leaf K V := { l with keys := l.keys ++ [k], vals := l.vals ++ [v] }

/-- the test of `_insert_sorted_optimized`: the cached leaf, when it has keys, `key > keys[-1]` and it is not full -/
def fastLeaf (s : PState K V) (k : K) : Option (Leaf K V) :=
  match s.cache with
  | none => none
  | some id =>
    match findLeafById (Tree.leaves s.height s.root) id with
    | none => none
    | some l =>
      match l.keys.getLast? with
      | none => none
      | some lastk => if ord k > ord lastk ∧ ¬ isFull s.cap l.keys.length then some l else none

/-- `_insert_sorted_optimized` -/
def insertSorted (s : PState K V) (k : K) (v : V) : Option (PState K V) :=
  match fastLeaf s k with
  | some l => some { s with root := mapLeaf l.id (appendKV k v) s.height s.root }
  | none =>
    match setitem s k v with
    | none => none
    | some s' =>
      match lastOfChain s' with
      | .ok c => some { s' with cache := c }
      | _ => none

/-- `from_sorted_items(items, capacity)`; outer `none` = InvalidCapacityError, inner `none` = another exception -/
def fromSorted (cap : Nat) (its : List (K × V)) : Option (Option (PState K V)) :=
  (new cap : Option (PState K V)).map fun s => its.foldl (fun acc kv => acc.bind fun s => insertSorted s kv.1 kv.2) (some s)

end BPT.Py
