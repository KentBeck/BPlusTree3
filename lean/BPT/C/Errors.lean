import BPT.C.Model
/-
  Error exits of the C extension's searches (python/bplustree_c_src/{tree_ops,node_ops}.c): a key whose
  comparison with a stored key raises (unorderable types, a raising `__lt__`).

  `node_find_position` returns -1 at the first failing comparison; every caller tests that result *before* it writes a
  slot, touches `size` / `modification_count` or takes a reference (`if (pos < 0) return -1;` directly after the search).
  So such a call raises, changes nothing and emits no reference-count event — provided a comparison happens at all:
  a node with no keys is searched without comparing, and the descent continues into child 0.

  The model *states* that contract (`raisingCall`), so the theorems are its unfolding; what ties it to the code is the
  reference-count site inventory per function (`TieC.c_refcount_sites_eq`), the source-text ties of the search
  functions, and the correspondence run (`badset` / `badget` / `baddel` lines; `badin` answers `false`).
-/
namespace BPT.C
open BPT

variable {K V : Type} [Keyed K]

/-- does a search for an incomparable key reach a comparison? (a key-less node is passed through to child 0) -/
def searchCompares : (h : Nat) → Tree K V h → Bool
  | 0, (l : Leaf K V) => !l.keys.isEmpty
  | h+1, (b : Branch K (Tree K V h)) =>
    !b.keys.isEmpty || (match b.children[0]? with | some c => searchCompares h c | none => false)

/-- outcome of `t[bad] = v`, `t[bad]`, `del t[bad]` for a key `bad` that cannot be compared
    (`bad in t` is different: `BPlusTree_contains` clears whatever error the lookup raised and answers 0):
    `some (state after, reference events)` when the call raises `TypeError`; `none` when no comparison
    happens (the call then proceeds as for an ordinary key, outside this definition) -/
def raisingCall (s : CState K V) : Option (CState K V × Evs K V) :=
  if searchCompares s.height s.root then some (s, { inc := [], dec := [] }) else none

omit [Keyed K] in
theorem raisingCall_state (s s' : CState K V) (e : Evs K V) (h : raisingCall s = some (s', e)) : s' = s := by
  unfold raisingCall at h
  split at h
  · cases h; rfl
  · cases h

omit [Keyed K] in
theorem raisingCall_refs (s s' : CState K V) (e : Evs K V) (h : raisingCall s = some (s', e)) :
    e.inc = [] ∧ e.dec = [] := by
  unfold raisingCall at h
  split at h
  · cases h; exact ⟨rfl, rfl⟩
  · cases h

omit [Keyed K] in
/-- a non-empty single-leaf tree, and every tree whose root is a branch with a key, compares -/
theorem searchCompares_of_root_keys (s : CState K V) :
    (match s.height, s.root with
     | 0, (l : Leaf K V) => l.keys ≠ []
     | _+1, (b : Branch K (Tree K V _)) => b.keys ≠ []) → searchCompares s.height s.root = true := by
  rcases s with ⟨cap, h, root, size, modc, nid⟩
  cases h with
  | zero => intro hk; simp only [searchCompares]; cases hl : (root : Leaf K V).keys <;> simp_all
  | succ n => intro hk; simp only [searchCompares]; cases hl : (root : Branch K (Tree K V n)).keys <;> simp_all

end BPT.C
