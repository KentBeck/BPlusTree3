import BPT.Py.Top
import BPT.Py.Readers
import BPT.Py.Api
import BPT.Core.Fold
/-
  Every call of the mapping API on a valid state answers what the sorted association list answers,
  raises nothing but KeyError, and leaves a valid state.
-/
namespace BPT.Py
open BPT Tree
variable {K V : Type} [Keyed K]

/-- the specification of one call on the sorted association list -/
def specStep (m : List (K × V)) : Op K V → List (K × V) × Out K V
  | .set k v => (SMap.insert m k v, .unit)
  | .del k => (SMap.erase m k, if (SMap.lookup m k).isSome then .unit else .keyError)
  | .get k d => (m, .val (match SMap.lookup m k with | some p => p.2 | none => d))
  | .getitem k => (m, match SMap.lookup m k with | some p => .val p.2 | none => .keyError)
  | .contains k => (m, .bool (SMap.lookup m k).isSome)
  | .len => (m, .nat m.length)
  | .bool => (m, .bool (decide (m.length > 0)))
  | .pop k d =>
    match SMap.lookup m k with
    | some p => (SMap.erase m k, .val p.2)
    | none => (m, match d with | some d => .val d | none => .keyError)
  | .popitem =>
    match m with
    | [] => ([], .keyError)
    | p :: rest => (rest, .item p.1 p.2)            -- removes the entry with the smallest key
  | .setdefault k d =>
    match SMap.lookup m k with
    | some p => (m, .val p.2)
    | none => (SMap.insert m k d, .val d)
  | .update its => (its.foldl (fun m kv => SMap.insert m kv.1 kv.2) m, .unit)
  | .copy => (m, .unit)
  | .clear => ([], .unit)
  | .items a b => (m, .list (m.filter (fun p => inRange a b p.1)))

theorem get_spec (isNone : V → Bool) (s : PState K V) (hi : PInv s) (k : K) (d : V) :
    get Cfg.repaired isNone s k d = some (match SMap.lookup (abs s) k with | some p => p.2 | none => d) := by
  unfold get
  rw [findRec_spec s.height s.root none none k hi.ord]
  simp only [Option.map_some, abs, Cfg.repaired]
  cases SMap.lookup (toList s.height s.root) k <;> rfl

theorem getitem_spec (s : PState K V) (hi : PInv s) (k : K) :
    getitem s k = some ((SMap.lookup (abs s) k).map (·.2)) := by
  unfold getitem
  rw [findRec_spec s.height s.root none none k hi.ord]; rfl

theorem contains_spec (s : PState K V) (hi : PInv s) (k : K) :
    contains s k = some (SMap.lookup (abs s) k).isSome := by
  unfold contains
  rw [findRec_spec s.height s.root none none k hi.ord]; rfl

theorem update_spec (its : List (K × V)) : ∀ (s : PState K V), PInv s →
    ∃ s', update s its = some s' ∧ PInv s' ∧ abs s' = its.foldl (fun m kv => SMap.insert m kv.1 kv.2) (abs s) ∧ s'.cap = s.cap := by
  intro s hi
  obtain ⟨s', he, ⟨h1, h3⟩, h2⟩ := foldl_bind_refines (fun (s : PState K V) (kv : K × V) => setitem s kv.1 kv.2)
    (fun (m : List (K × V)) (kv : K × V) => SMap.insert m kv.1 kv.2) abs (fun s1 => PInv s1 ∧ s1.cap = s.cap)
    (fun s1 kv ⟨hi1, hc1⟩ => let ⟨s2, he, hi2, ha2, hc2⟩ := setitem_spec s1 kv.1 kv.2 hi1; ⟨s2, he, ⟨hi2, hc2.trans hc1⟩, ha2⟩)
    its s ⟨hi, rfl⟩
  exact ⟨s', he, h1, h2, h3⟩

/-- the first entry of the first leaf is the smallest entry; it is missing only when the map is empty -/
theorem firstEntry_spec (s : PState K V) (hi : PInv s) (hcap : 4 ≤ s.cap) : firstEntry s = some (abs s).head? := by
  obtain ⟨l, R, hl, hhead⟩ := hi.leaves_cons
  have hnd := hi.ids_nodup
  have hmem : l ∈ leaves s.height s.root := by rw [hl]; exact List.mem_cons_self
  have hfind : findLeafById (leaves s.height s.root) s.head = some l := hhead ▸ findLeafById_self _ hnd l hmem
  have hpar := leaves_lens s.height s.root none none hi.ord l hmem
  have habs : abs s = l.keys.zip l.vals ++ R.flatMap Leaf.entries := by
    simp only [abs, toList, hl, List.flatMap_cons]; rfl
  unfold firstEntry
  rw [hfind]
  cases hk : l.keys with
  | nil =>
    -- an empty first leaf: it is the root leaf and the map is empty
    simp only []
    have h0 : s.height = 0 := by
      have hmin := hi.sz.leaf_min (rootMin_le s.cap s.height hcap) l hmem
      rw [hk] at hmin
      unfold rootMin at hmin
      split at hmin
      · assumption
      · cases hmin
    have hR : R = [] := by
      obtain ⟨cap, height, root, head, nextId, cache⟩ := s
      simp only at h0; subst h0
      simp only [leaves] at hl
      cases hl; rfl
    rw [habs, hk, hR]; rfl
  | cons k0 ks =>
    cases hv : l.vals with
    | nil => rw [hk, hv] at hpar; simp at hpar
    | cons v0 vs =>
      simp only []
      rw [habs, hk, hv]; rfl

/-- every call refines the specification and keeps the invariant -/
theorem step_spec (isNone : V → Bool) (s : PState K V) (op : Op K V) (hi : PInv s) :
    ∃ s', step Cfg.repaired isNone s op = .ok (s', (specStep (abs s) op).2) ∧ PInv s' ∧
      abs s' = (specStep (abs s) op).1 ∧ s'.cap = s.cap := by
  cases op with
  | set k v =>
    obtain ⟨s', he, h1, h2, h3⟩ := setitem_spec s k v hi
    exact ⟨s', by simp [step, he, Res.ofOption, specStep], h1, h2, h3⟩
  | del k =>
    obtain ⟨s', _, he, h1, h2, rfl, h4, _⟩ := delitem_spec s k hi
    exact ⟨s', by simp only [step, he, Res.ofOption, Res.map_ok, specStep], h1, h2, h4⟩
  | get k d =>
    refine ⟨s, ?_, hi, rfl, rfl⟩
    simp [step, get_spec isNone s hi k d, Res.ofOption, specStep]
  | getitem k =>
    refine ⟨s, ?_, hi, rfl, rfl⟩
    simp only [step, getitem_spec s hi k, Res.ofOption, Res.map_ok, specStep]
    cases SMap.lookup (abs s) k <;> rfl
  | contains k =>
    refine ⟨s, ?_, hi, rfl, rfl⟩
    simp [step, contains_spec s hi k, Res.ofOption, specStep]
  | len =>
    refine ⟨s, ?_, hi, rfl, rfl⟩
    simp [step, len_spec s hi, specStep]
  | bool =>
    refine ⟨s, ?_, hi, rfl, rfl⟩
    simp [step, len_spec s hi, specStep]
  | pop k d =>
    simp only [step, pop, getitem_spec s hi k, specStep]
    cases hl : SMap.lookup (abs s) k with
    | none =>
      refine ⟨s, ?_, hi, rfl, rfl⟩
      simp only [Option.map_none, Res.ofOption, Res.map_ok]
      cases d <;> rfl
    | some p =>
      obtain ⟨s', _, he, h1, h2, rfl, h4, _⟩ := delitem_spec s k hi
      rw [hl] at he
      exact ⟨s', by simp [he, Res.ofOption], h1, h2, h4⟩
  | popitem =>
    simp only [step, popitem, len_spec s hi, Res.bind_ok, specStep]
    cases hm : abs s with
    | nil =>
      refine ⟨s, ?_, hi, hm, rfl⟩
      simp
    | cons p rest =>
      have hfe := firstEntry_spec s hi hi.cap4
      rw [hm] at hfe
      simp only [List.length_cons, Nat.succ_ne_zero, if_false, hfe, List.head?_cons]
      obtain ⟨s', _, he, h1, h2, rfl, h4, _⟩ := delitem_spec s p.1 hi
      rw [hm, SMap.lookup_head] at he
      rw [hm, SMap.erase_head] at h2
      exact ⟨s', by simp [he], h1, h2, h4⟩
  | setdefault k d =>
    simp only [step, setdefault, getitem_spec s hi k, specStep]
    cases hl : SMap.lookup (abs s) k with
    | some p =>
      refine ⟨s, ?_, hi, rfl, rfl⟩
      simp [Res.ofOption]
    | none =>
      obtain ⟨s', he, h1, h2, h3⟩ := setitem_spec s k d hi
      refine ⟨s', ?_, h1, h2, h3⟩
      simp [he, Res.ofOption]
  | update its =>
    obtain ⟨s', he, h1, h2, h3⟩ := update_spec its s hi
    exact ⟨s', by simp [step, he, Res.ofOption, specStep], h1, h2, h3⟩
  | copy =>
    obtain ⟨s0, h0, hinv0, habs0, hcap0⟩ := pinv_new (K := K) (V := V) s.cap hi.cap4
    obtain ⟨s', he, h1, h2, h3⟩ := update_spec (abs s) s0 hinv0
    rw [habs0, SMap.foldl_insert_sorted (abs s) [] (by simpa using abs_sorted s hi)] at h2
    refine ⟨s', ?_, h1, by simpa [specStep] using h2, by rw [h3, hcap0]⟩
    simp [step, copy, items_unbounded s hi, h0, he, Res.ofOption, specStep]
  | clear =>
    exact ⟨clear s, rfl, (clear_spec s hi).1, (clear_spec s hi).2.1, (clear_spec s hi).2.2⟩
  | items a b =>
    refine ⟨s, ?_, hi, rfl, rfl⟩
    simp [step, items_spec s hi a b, specStep]

end BPT.Py
