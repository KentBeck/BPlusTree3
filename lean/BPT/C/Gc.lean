import BPT.C.Top
/-
  The C extension's part in CPython's cyclic garbage collection: `BPlusTree_traverse` / `BPlusTree_clear`, both through
  `node_gc_op(node, visit, arg, clear)` (bplustree_module.c).  `tp_traverse` must call `visit` once for every reference
  the object owns (one not reported keeps a dead cycle alive, one reported without being owned, or twice, makes the
  collector tear down an object still in use); `tp_clear` must drop each of those references once.

  `node_gc_op` is transcribed with its loops as written — by index, `i < num_keys` for key and value slots, `i <= num_keys`
  for the children, reading whatever the arrays hold there — *not* as "all keys, all values, all children".  That the two
  coincide is the theorem, and it needs the shape part of the invariant.
-/
namespace BPT.C
open BPT Tree

variable {K V : Type} [Keyed K]

/-- `for (i = 0; i < n; i++) visit(xs[i])` -/
def visitSlots {α β : Type} (n : Nat) (xs : List α) (f : α → β) : List β :=
  (List.range n).filterMap fun i => (xs[i]?).map f

/-- `for (i = 0; i <= n; i++) if (child_i) recurse(child_i)` -/
def visitChildren {α β : Type} (n : Nat) (cs : List α) (g : α → List β) : List β :=
  (List.range (n + 1)).flatMap fun i => match cs[i]? with | some c => g c | none => []

/-- `node_gc_op(node, visit, arg, 0)`: the objects `visit` is called on, in call order -/
def gcVisit : (h : Nat) → Tree K V h → List (Obj K V)
  | 0, (l : Leaf K V) =>
      visitSlots l.keys.length l.keys Obj.key ++ visitSlots l.keys.length l.vals Obj.val
  | h+1, (b : Branch K (Tree K V h)) =>
      visitSlots b.keys.length b.keys Obj.key ++ visitChildren b.keys.length b.children (gcVisit h)

/-- `BPlusTree_traverse` (the root pointer of a constructed tree is never NULL) -/
def gcTraverse (s : CState K V) : List (Obj K V) := gcVisit s.height s.root

/-- `BPlusTree_clear`: `Py_CLEAR` on the same slots in the same order — one DECREF each, no INCREF -/
def gcClear (s : CState K V) : Evs K V := { dec := gcVisit s.height s.root }

theorem visitSlots_all {α β : Type} (xs : List α) (f : α → β) : visitSlots xs.length xs f = xs.map f := by
  induction xs with
  | nil => rfl
  | cons x xs ih =>
    unfold visitSlots at ih ⊢
    -- indices `0, 1 + i`: the head, then the same loop over the tail
    rw [List.length_cons, List.range_succ_eq_map, List.filterMap_cons, List.filterMap_map]
    simpa [Function.comp_def] using ih

theorem visitChildren_all {α β : Type} {n : Nat} {cs : List α} {g : α → List β} (h : cs.length = n + 1) :
    visitChildren n cs g = cs.flatMap g := by
  unfold visitChildren
  rw [← h]
  clear h
  induction cs with
  | nil => rfl
  | cons c cs ih =>
    rw [List.length_cons, List.range_succ_eq_map, List.flatMap_cons, List.flatMap_map]
    simpa [Function.comp_def] using ih

/-- the traverse loop reports exactly the slots: every key, separator and value slot once, and nothing else -/
theorem gcVisit_eq_slotsOf : ∀ (h : Nat) (t : Tree K V h) (lo hi : Option Int), Ordered h t lo hi →
    gcVisit h t = slotsOf h t
  | 0, (l : Leaf K V), lo, hi, ho => by
    show visitSlots l.keys.length l.keys Obj.key ++ visitSlots l.keys.length l.vals Obj.val = _
    rw [visitSlots_all, ho.leaf_lens, visitSlots_all]
    rfl
  | h+1, (b : Branch K (Tree K V h)), lo, hi, ho => by
    show visitSlots b.keys.length b.keys Obj.key ++ visitChildren b.keys.length b.children (gcVisit h) = _
    rw [visitSlots_all, visitChildren_all ho.arity]
    have : b.children.flatMap (gcVisit h) = b.children.flatMap (slotsOf h) := flatMap_congr fun c hc =>
      let ⟨i, hi'⟩ := List.getElem?_of_mem hc; gcVisit_eq_slotsOf h c _ _ (ho.child hi')
    rw [this]
    rfl

theorem gcTraverse_eq_slots (s : CState K V) (hi : CInv s) : gcTraverse s = slots s :=
  gcVisit_eq_slotsOf s.height s.root none none hi.ord

theorem gcClear_eq_dealloc (s : CState K V) (hi : CInv s) : gcClear s = dealloc s := by
  unfold gcClear dealloc
  rw [show gcVisit s.height s.root = slots s from gcTraverse_eq_slots s hi]

/-- why the shape invariant is needed: with `num_keys` 1 and two value objects the second is never reported -/
theorem gcVisit_needs_shape :
    gcVisit 0 ({ id := 1, keys := [1], vals := [10, 20], next := noneId } : Leaf Int Nat) ≠
      slotsOf 0 ({ id := 1, keys := [1], vals := [10, 20], next := noneId } : Leaf Int Nat) := by
  decide +kernel

end BPT.C
