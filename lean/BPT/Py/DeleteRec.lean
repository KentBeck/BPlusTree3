import BPT.Py.RebalanceLeaf
import BPT.Py.RebalanceBranch
import BPT.Core.Route
/-
  `_delete_recursive` of the pure-Python map, as repaired (D6b: a leaf reports presence by position,
  whatever the value; D8: the switch `Cfg.emptyShortcutLeafOnly`).  From capacity 5 on the proof does
  not need the repair of D8 (`deleteRec_spec_cfg`).
-/
namespace BPT.Py
open BPT Tree
open BPT.Rust (links links_succ links_zero ChainL firstOf)
variable {K V : Type} [Keyed K]

/-- what `_delete_recursive` hands back for the subtree `t`.  `m`: what the node `t` itself held at least (`minKeys`
    inside the tree, `rootMin` at the root); it may end one short -/
structure DelPost (cap h : Nat) (t : Tree K V h) (lo hi : Option Int) (k : K) (m : Nat) (r : Tree K V h × Bool) : Prop where
  found : r.2 = (SMap.lookup (toList h t) k).isSome
  list : toList h r.1 = SMap.erase (toList h t) k
  ord : Ordered h r.1 lo hi
  same : r.2 = false → r.1 = t
  sz : PSized cap h r.1 (m - 1)
  nk : BPT.nkeys h t ≤ BPT.nkeys h r.1 + 1
  lk : PLinkRem (links h t) (links h r.1)

theorem deleteLeaf_spec (cfg : Cfg) (cap : Nat) (l : Leaf K V) (lo hi : Option Int) (k : K) (m : Nat)
    (ho : Ordered 0 (l : Tree K V 0) lo hi) (hsz : PSized cap 0 (l : Tree K V 0) m) :
    ∃ r, deleteRec cfg cap 0 (l : Tree K V 0) k = some r ∧ DelPost cap 0 (l : Tree K V 0) lo hi k m r := by
  have hsz' : m ≤ l.keys.length ∧ l.keys.length ≤ cap := hsz
  unfold deleteRec
  simp only []
  rcases lowerBound_hit_or_miss l.keys k with ⟨k', hk', heq⟩ | hnf
  · obtain ⟨hltv, ho', hlist, hlen, hsome⟩ := leaf_remove_spec l lo hi k k' ho hk' heq
    simp only [hk', heq, decide_true, if_true, hltv]
    exact ⟨_, rfl, hsome.symm, hlist, ho', (fun h => by cases h),
      ⟨Nat.sub_le_of_le_add (Nat.le_trans hsz'.1 (Nat.le_of_eq hlen.symm)), Nat.le_of_succ_le (Nat.le_trans (Nat.le_of_eq hlen) hsz'.2)⟩,
      Nat.le_of_eq hlen.symm, .same rfl⟩
  · have hnone := leaf_absent_spec l lo hi k ho hnf
    have hpost : DelPost cap 0 (l : Tree K V 0) lo hi k m ((l : Tree K V 0), false) :=
      ⟨by rw [hnone]; rfl, by rw [SMap.erase_of_lookup_none k hnone], ho, fun _ => rfl,
        ⟨Nat.le_trans (Nat.sub_le _ _) hsz'.1, hsz'.2⟩, Nat.le_succ _, .same rfl⟩
    cases hk' : l.keys[lowerBound l.keys k]? with
    | none => exact ⟨_, rfl, hpost⟩
    | some k' => simp only [hnf k' hk', decide_false, Bool.false_eq_true, if_false]; exact ⟨_, rfl, hpost⟩

theorem deleteRec_succ {cfg : Cfg} (cap h : Nat) (b : Branch K (Tree K V h)) (k : K) (c c' : Tree K V h) (fnd : Bool)
    (hlen : b.children.length = b.keys.length + 1) (hc : b.children[upperBound b.keys k]? = some c)
    (hrec : deleteRec cfg cap h c k = some (c', fnd)) :
    deleteRec cfg cap (h+1) (b : Tree K V (h+1)) k =
      if fnd = true ∧ (BPT.nkeys h c' = 0 ∨ BPT.nkeys h c' < minKeys cap) then
        (handleUnderflow cfg cap h (b.replace1 (upperBound b.keys k) c') (upperBound b.keys k)).map fun b2 => ((b2 : Tree K V (h+1)), true)
      else some ((b.replace1 (upperBound b.keys k) c' : Tree K V (h+1)), fnd) := by
  unfold deleteRec
  simp only [arity_guard hlen, if_false, hc, hrec]
  cases fnd with
  | false => simp only [Bool.false_eq_true, false_and, if_false]; rfl
  | true => simp only [isUnderfull, decide_eq_true_eq, true_and]; rfl

theorem handleUnderflow_short (cfg : Cfg) (cap : Nat) (hcfg : cfg.emptyShortcutLeafOnly = true ∨ 5 ≤ cap) :
    ∀ (h : Nat) (b : Branch K (Tree K V h)) (i : Nat) (lo hi : Option Int),
    Short cap (minKeys cap) 1 h b i lo hi → ∃ b2, handleUnderflow cfg cap h b i = some b2 ∧ Mended cap (minKeys cap) 1 h b b2 lo hi
  | 0, b, i, lo, hi, hp => handleLeaf_short cap b i lo hi hp
  | h+1, b, i, lo, hi, hp => handleBranch_short cfg cap h b i lo hi hp hcfg

theorem handleUnderflow_spec (cap : Nat) : ∀ (h : Nat) (b : Branch K (Tree K V h)) (i : Nat) (lo hi : Option Int),
    RebPre cap h b i lo hi → ∃ b2, handleUnderflow Cfg.repaired cap h b i = some b2 ∧ RebPost cap h b b2 lo hi
  | h, b, i, lo, hi, hp =>
    let ⟨b2, he, hm⟩ := handleUnderflow_short Cfg.repaired cap (Or.inl rfl) h b i lo hi hp.short
    ⟨b2, he, .of_mended hm⟩

/-- `1 ≤ m` for a branch: a child that ends short needs a sibling (`Short.nk`) -/
theorem deleteRec_spec_cfg (cfg : Cfg) (cap : Nat) (hcap : 4 ≤ cap) (hcfg : cfg.emptyShortcutLeafOnly = true ∨ 5 ≤ cap) :
    ∀ (h : Nat) (t : Tree K V h) (lo hi : Option Int) (k : K) (m : Nat),
      Ordered h t lo hi → PSized cap h t m → (h = 0 ∨ 1 ≤ m) →
      ∃ r, deleteRec cfg cap h t k = some r ∧ DelPost cap h t lo hi k m r := by
  intro h
  induction h with
  | zero =>
    intro t lo hi k m ho hsz _
    exact deleteLeaf_spec cfg cap (t : Leaf K V) lo hi k m ho hsz
  | succ h ih =>
    intro t lo hi k m ho hsz hm
    obtain ⟨c, rt⟩ := ho.route k
    obtain ⟨hz1, hz2, hz3⟩ := hsz
    have hm1 : 1 ≤ m := hm.resolve_left (Nat.succ_ne_zero h)
    have hmk := (minKeys_bounds cap hcap).1
    obtain ⟨⟨c', fnd⟩, he, hr⟩ := ih c _ _ k (minKeys cap) rt.child (hz3 c rt.mem) (Or.inr hmk)
    have hfound : fnd = (SMap.lookup (toList (h+1) t) k).isSome := by rw [rt.lookup]; exact hr.found
    rw [deleteRec_succ cap h t k c c' fnd ho.arity rt.get he]
    have hb1o := rt.replace1 (c' := c') hr.ord
    have hb1l := rt.replace1_toList (c' := c') (.erase k) hr.list
    have hb1k : PLinkRem (links (h+1) t) (links (h+1) ((t : Branch K (Tree K V h)).replace1 (upperBound (Branch.keys t) k) c')) :=
      PLinkRem.replace1 rt.get hr.lk
    have hcsz : PSized cap h c' (minKeys cap - 1) := hr.sz
    have hsame : fnd = false → c' = c := hr.same
    by_cases hu : fnd = true ∧ (BPT.nkeys h c' = 0 ∨ BPT.nkeys h c' < minKeys cap)
    · -- the child is one key short: the branch with it put back is `Short` there and is rebalanced
      rw [if_pos hu]
      obtain ⟨rfl, hu⟩ := hu
      have hocc := (psized_iff_occ cap (h+1) t m).1 ⟨hz1, hz2, hz3⟩
      have hshort := Short.of_replace1 hmk (minKeys_bounds cap hcap).2 hocc hm1 rt.lt hb1o ((psized_iff_occ cap h c' _).1 hcsz)
        (hu.elim (fun h0 => h0 ▸ hmk) id)
      obtain ⟨b2, hreb, hmended⟩ := handleUnderflow_short cfg cap hcfg h _ _ lo hi hshort
      rw [hreb]
      refine ⟨_, rfl, hfound, hmended.list.trans hb1l, hmended.ord, (fun hn => by cases hn),
        (psized_iff_occ cap (h+1) _ _).2 (hmended.occ hz1 hz2), hmended.k1, ?_⟩
      -- a leaf child keeps its one link, and the merge (if any) happens here; above the leaves the rebalance keeps the links
      cases h with
      | zero => rw [← Rust.links_replace1_eq rt.get hr.lk.single]; exact hmended.lk
      | succ h' => show PLinkRem _ (links (h'+1+1) b2); rw [hmended.lk1 (Nat.succ_pos h')]; exact hb1k
    · rw [if_neg hu]
      have hc's : PSized cap h c' (minKeys cap) := by
        cases fnd with
        | false => rw [hsame rfl]; exact hz3 c rt.mem
        | true => exact hcsz.raise (Nat.le_of_not_lt fun hlt => hu ⟨rfl, .inr hlt⟩)
      refine ⟨_, rfl, hfound, hb1l, hb1o, fun hf => ?_,
        PSized.replace1 ⟨Nat.le_trans (Nat.sub_le _ _) hz1, hz2, hz3⟩ _ hc's, Nat.le_succ _, hb1k⟩
      have hf' : fnd = false := hf
      subst hf'
      rw [hsame rfl]; exact Branch.replace1_self rt.get

theorem deleteRec_spec (cap : Nat) (hcap : 4 ≤ cap) :
    ∀ (h : Nat) (t : Tree K V h) (lo hi : Option Int) (k : K) (m : Nat),
      Ordered h t lo hi → PSized cap h t m → (h = 0 ∨ 1 ≤ m) →
      ∃ r, deleteRec Cfg.repaired cap h t k = some r ∧ DelPost cap h t lo hi k m r :=
  deleteRec_spec_cfg Cfg.repaired cap hcap (Or.inl rfl)

end BPT.Py
