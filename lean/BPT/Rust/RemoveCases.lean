import BPT.Rust.NodeOps
/-
  The remove path of the model, unfolded once.  The decision trees of `rebalanceLeaf`, `rebalanceBranch`, `removeLeaf`
  as case lemmas over an arbitrary predicate on the result, so that "does not panic and establishes .." and "whatever
  it returns satisfies .." are both instances; what a rebalance can return at all (`*_shape`); `removeRec` at a branch
  once the child has returned, and the induction along the path of any successful call.
-/
namespace BPT.Rust
open BPT
variable {K V : Type}

theorem branchReplace2_eq {α : Type} (b : Branch K α) (i : Nat) (l r : α) (sep : K) :
    branchReplace2 b i l r sep = b.replace2 i l r sep := rfl

theorem branchMerge2_eq {α : Type} (b : Branch K α) (i : Nat) (m : α) : branchMerge2 b i m = b.merge2 i m := rfl

theorem canDonate_eq (cap n : Nat) : canDonate cap n = decide (cap / 2 < n) := rfl

/-- the model has both because the code has `merge_with_left_*` and `merge_with_right_*`; the case lemmas speak of the
    second only -/
theorem leafMergeLeftAt_succ {cap : Nat} {b : Branch K (Leaf K V)} {j : Nat} {al : Allocs} {x y : Leaf K V} :
    leafMergeLeftAt cap b (j+1) al x y = leafMergeRightAt cap b j al x y := rfl

theorem branchMergeLeftAt_succ {α : Type} {cap : Nat} {b : Branch K (Branch K α)} {j : Nat} {al : Allocs} {x y : Branch K α} :
    branchMergeLeftAt cap b (j+1) al x y = branchMergeRightAt cap b j al x y := rfl

theorem rebalanceLeaf_cases {cap : Nat} {b : Branch K (Leaf K V)} {i : Nat} {al : Allocs}
    {P : Option (Branch K (Leaf K V) × Allocs) → Prop}
    (panic : b.children.length ≤ i → P none)
    (borrowL : ∀ j a c, i = j + 1 → b.children[j]? = some a → b.children[j+1]? = some c → cap / 2 < a.keys.length →
      P (leafBorrowLeftAt b (j+1) al a c))
    (borrowR : ∀ c r, b.children[i]? = some c → b.children[i+1]? = some r → cap / 2 < r.keys.length →
      P (leafBorrowRightAt b i al c r))
    (merge : ∀ j x y, b.children[j]? = some x → b.children[j+1]? = some y →
      (i = j + 1 ∧ ¬ cap / 2 < x.keys.length ∨ i = j ∧ ¬ cap / 2 < y.keys.length) → P (leafMergeRightAt cap b j al x y))
    (alone : i = 0 → b.children.length = 1 → P (some (b, al))) :
    P (rebalanceLeaf cap b i al) := by
  unfold rebalanceLeaf
  cases hc : b.children[i]? with
  | none => exact panic (by simpa using hc)
  | some c =>
    have hi := lt_of_getElem?_eq_some hc
    simp only [sibling_right]
    cases i with
    | zero =>
      simp only [Nat.lt_irrefl, if_false]
      cases hr : b.children[0+1]? with
      | none => exact alone rfl (Nat.le_antisymm (List.getElem?_eq_none_iff.1 hr) hi)
      | some r =>
        simp only [rebalanceLeafWith, canDonate_eq, decide_eq_true_eq]
        split
        · exact borrowR c r hc hr ‹_›
        · exact merge 0 c r hc hr (Or.inr ⟨rfl, ‹_›⟩)
    | succ j =>
      rw [sibling_left]
      obtain ⟨a, ha⟩ : ∃ a, b.children[j]? = some a := ⟨_, List.getElem?_eq_getElem (Nat.lt_of_succ_lt hi)⟩
      rw [ha]
      simp only [rebalanceLeafWith, canDonate_eq, decide_eq_true_eq]
      split
      · exact borrowL j _ c rfl ha hc ‹_›
      · cases hr : b.children[j+1+1]? with
        | none => rw [leafMergeLeftAt_succ]; exact merge j _ c ha hc (Or.inl ⟨rfl, ‹_›⟩)
        | some r =>
          simp only []
          split
          · exact borrowR c r hc hr ‹_›
          · rw [leafMergeLeftAt_succ]; exact merge j _ c ha hc (Or.inl ⟨rfl, ‹_›⟩)

/-- `rebalance_branch` also reads the separator next to every sibling that exists (second way to panic) -/
theorem rebalanceBranch_cases {α : Type} {cap : Nat} {b : Branch K (Branch K α)} {i : Nat} {al : Allocs}
    {P : Option (Branch K (Branch K α) × Allocs) → Prop}
    (panic : b.children.length ≤ i ∨ b.keys.length + 1 < b.children.length → P none)
    (borrowL : ∀ j a c, i = j + 1 → b.children[j]? = some a → b.children[j+1]? = some c → cap / 2 < a.keys.length →
      P (branchBorrowLeftAt b (j+1) al a c))
    (borrowR : ∀ c r, b.children[i]? = some c → b.children[i+1]? = some r → cap / 2 < r.keys.length →
      P (branchBorrowRightAt b i al c r))
    (merge : ∀ j x y, b.children[j]? = some x → b.children[j+1]? = some y →
      (i = j + 1 ∧ ¬ cap / 2 < x.keys.length ∨ i = j ∧ ¬ cap / 2 < y.keys.length) → P (branchMergeRightAt cap b j al x y))
    (alone : i = 0 → b.children.length = 1 → P (some (b, al))) :
    P (rebalanceBranch cap b i al) := by
  unfold rebalanceBranch
  cases hc : b.children[i]? with
  | none => exact panic (Or.inl (by simpa using hc))
  | some c =>
    have hi := lt_of_getElem?_eq_some hc
    simp only [sibling_right]
    cases i with
    | zero =>
      simp only [Nat.lt_irrefl, if_false]
      cases hr : b.children[0+1]? with
      | none => exact alone rfl (Nat.le_antisymm (List.getElem?_eq_none_iff.1 hr) hi)
      | some r =>
        have hr1 := lt_of_getElem?_eq_some hr
        simp only [decide_eq_true_eq, true_and]
        split
        · simp only [rebalanceBranchWith, canDonate_eq, decide_eq_true_eq]
          split
          · exact borrowR c r hc hr ‹_›
          · exact merge 0 c r hc hr (Or.inr ⟨rfl, ‹_›⟩)
        · exact panic (Or.inr (by omega))
    | succ j =>
      rw [sibling_left]
      obtain ⟨a, ha⟩ : ∃ a, b.children[j]? = some a := ⟨_, List.getElem?_eq_getElem (Nat.lt_of_succ_lt hi)⟩
      rw [ha]
      simp only [Nat.add_sub_cancel, decide_eq_true_eq]
      cases hr : b.children[j+1+1]? with
      | none =>
        simp only [and_true]
        split
        · simp only [rebalanceBranchWith, canDonate_eq, decide_eq_true_eq]
          split
          · exact borrowL j _ c rfl ha hc ‹_›
          · rw [branchMergeLeftAt_succ]; exact merge j _ c ha hc (Or.inl ⟨rfl, ‹_›⟩)
        · exact panic (Or.inr (by omega))
      | some r =>
        have hr1 := lt_of_getElem?_eq_some hr
        simp only [decide_eq_true_eq]
        split
        · simp only [rebalanceBranchWith, canDonate_eq, decide_eq_true_eq]
          split
          · exact borrowL j _ c rfl ha hc ‹_›
          · split
            · exact borrowR c r hc hr ‹_›
            · rw [branchMergeLeftAt_succ]; exact merge j _ c ha hc (Or.inl ⟨rfl, ‹_›⟩)
        · exact panic (Or.inr (by omega))


/-- what `rebalanceLeaf` can hand back.  `borrow` leaves the keys `ks` open: `leafBorrowRightAt` has an arm (unreachable
    for a donor) that replaces the two children and leaves the separator alone, so the result need not be a `branchReplace2` -/
inductive LeafReb (b : Branch K (Leaf K V)) (al : Allocs) : Branch K (Leaf K V) → Allocs → Prop
  | alone : LeafReb b al b al
  | borrow (j : Nat) (x y x' y' : Leaf K V) (ks : List K) (hx : b.children[j]? = some x) (hy : b.children[j+1]? = some y)
      (hx' : SameLink x' x) (hy' : SameLink y' y) :
      LeafReb b al { b with keys := ks, children := setAt (setAt b.children j x') (j+1) y' } al
  | merge (j : Nat) (x y m : Leaf K V) (hx : b.children[j]? = some x) (hy : b.children[j+1]? = some y)
      (hm : m.id = x.id ∧ m.next = y.next) :
      LeafReb b al (branchMerge2 b j m) { al with leaf := al.leaf.dealloc y.id }

theorem rebalanceLeaf_shape {cap : Nat} {b : Branch K (Leaf K V)} {i : Nat} {al : Allocs} {b2 : Branch K (Leaf K V)}
    {al2 : Allocs} : rebalanceLeaf cap b i al = some (b2, al2) → LeafReb b al b2 al2 := by
  apply rebalanceLeaf_cases (P := fun o => o = some (b2, al2) → LeafReb b al b2 al2)
  · intro _ h; cases h
  · intro j a c _ ha hc _ h
    unfold leafBorrowLeftAt at h
    split at h
    · cases h
    · rename_i a' c' sep hb
      split at h
      · cases h
        exact .borrow j a c a' c' _ ha hc (leafBorrowLeft_some hb).1 (leafBorrowLeft_some hb).2
      · cases h
  · intro c r hc hr _ h
    unfold leafBorrowRightAt at h
    split at h
    · cases h
    · rename_i c' r' sep hb
      split at h
      · cases h
        exact .borrow i c r c' r' _ hc hr (leafBorrowRight_some hb).1 (leafBorrowRight_some hb).2
      · cases h
    · -- the arm that leaves the separator alone
      rename_i c' r' hb
      cases h
      exact .borrow i c r c' r' b.keys hc hr (leafBorrowRight_some hb).1 (leafBorrowRight_some hb).2
  · intro j x y hx hy _ h
    unfold leafMergeRightAt at h
    split at h
    · cases h
    · rename_i m hb
      split at h
      · cases h; exact .merge j x y m hx hy (leafMerge_some hb)
      · cases h
  · intro _ _ h; cases h; exact .alone

inductive BranchReb {α : Type} (b : Branch K (Branch K α)) (al : Allocs) : Branch K (Branch K α) → Allocs → Prop
  | alone : BranchReb b al b al
  | borrow (j : Nat) (x y x' y' : Branch K α) (sep : K) (hx : b.children[j]? = some x) (hy : b.children[j+1]? = some y)
      (hx' : x'.id = x.id) (hy' : y'.id = y.id) (hc : x'.children ++ y'.children = x.children ++ y.children) :
      BranchReb b al (branchReplace2 b j x' y' sep) al
  | merge (j : Nat) (x y m : Branch K α) (hx : b.children[j]? = some x) (hy : b.children[j+1]? = some y)
      (hm : m.id = x.id) (hc : m.children = x.children ++ y.children) :
      BranchReb b al (branchMerge2 b j m) { al with branch := al.branch.dealloc y.id }

theorem rebalanceBranch_shape {α : Type} {cap : Nat} {b : Branch K (Branch K α)} {i : Nat} {al : Allocs}
    {b2 : Branch K (Branch K α)} {al2 : Allocs} : rebalanceBranch cap b i al = some (b2, al2) → BranchReb b al b2 al2 := by
  apply rebalanceBranch_cases (P := fun o => o = some (b2, al2) → BranchReb b al b2 al2)
  · intro _ h; cases h
  · intro j a c _ ha hc _ h
    unfold branchBorrowLeftAt at h
    split at h
    · cases h
    · split at h
      · cases h
      · rename_i a' c' mk hb
        cases h
        obtain ⟨h1, h2, h3⟩ := branchBorrowLeft_some hb
        exact .borrow j a c a' c' mk ha hc h1 h2 h3
  · intro c r hc hr _ h
    unfold branchBorrowRightAt at h
    split at h
    · cases h
    · split at h
      · cases h
      · rename_i c' r' mk hb
        cases h
        obtain ⟨h1, h2, h3⟩ := branchBorrowRight_some hb
        exact .borrow i c r c' r' mk hc hr h1 h2 h3
  · intro j x y hx hy _ h
    unfold branchMergeRightAt at h
    split at h
    · cases h
    · split at h
      · cases h
      · rename_i m hb
        cases h
        exact .merge j x y m hx hy (branchMergeNodes_some hb).1 (branchMergeNodes_some hb).2
  · intro _ _ h; cases h; exact .alone

variable [Keyed K]

theorem removeLeaf_cases {cap : Nat} {l : Leaf K V} {k : K} {P : Option (RemOut K V 0) → Prop}
    (absent : (∀ k', l.keys[lowerBound l.keys k]? = some k' → ord k' ≠ ord k) →
      P (some { t := (l : Leaf K V), old := none, under := false }))
    (panic : ∀ k', l.keys[lowerBound l.keys k]? = some k' → ord k' = ord k → l.vals[lowerBound l.keys k]? = none → P none)
    (present : ∀ k' v, l.keys[lowerBound l.keys k]? = some k' → ord k' = ord k → l.vals[lowerBound l.keys k]? = some v →
      P (some { t := ({ l with keys := removeAt l.keys (lowerBound l.keys k), vals := removeAt l.vals (lowerBound l.keys k) } : Leaf K V),
                old := some v, under := isUnderfull cap (l.keys.length - 1) })) :
    P (removeLeaf cap l k) := by
  unfold removeLeaf
  simp only []
  cases hk : l.keys[lowerBound l.keys k]? with
  | none => exact absent (fun k' h => by rw [hk] at h; cases h)
  | some k' =>
    by_cases he : ord k' = ord k
    · simp only [he, decide_true, if_true]
      cases hv : l.vals[lowerBound l.keys k]? with
      | none => exact panic k' hk he hv
      | some v => exact present k' v hk he hv
    · simp only [he, decide_false, Bool.false_eq_true, if_false]
      exact absent (fun k'' h => by rw [hk] at h; cases h; exact he)

theorem removeLeaf_some {cap : Nat} {l : Leaf K V} {k : K} {r : RemOut K V 0} :
    removeLeaf cap l k = some r → SameLink (r.t : Leaf K V) l := by
  apply removeLeaf_cases (P := fun o => o = some r → SameLink (r.t : Leaf K V) l)
  · intro _ h; cases h; exact ⟨rfl, rfl⟩
  · intro _ _ _ _ h; cases h
  · intro _ _ _ _ _ h; cases h; exact ⟨rfl, rfl⟩

theorem removeRec_zero (cap : Nat) (l : Leaf K V) (k : K) (al : Allocs) :
    removeRec cap 0 (l : Tree K V 0) k al = (removeLeaf cap l k).map (fun r => (r, al)) := by
  rw [removeRec]

theorem removeRec_zero_some {cap : Nat} {l : Leaf K V} {k : K} {al : Allocs} {r : RemOut K V 0} {al' : Allocs}
    (he : removeRec cap 0 l k al = some (r, al')) : removeLeaf cap l k = some r ∧ al' = al := by
  rw [removeRec_zero] at he
  obtain ⟨r0, hr, e⟩ := Option.map_eq_some_iff.1 he
  cases e; exact ⟨hr, rfl⟩

theorem removeRec_succ {cap h : Nat} {b : Branch K (Tree K V h)} {k : K} {al : Allocs} {c : Tree K V h}
    {rc : RemOut K V h} {al1 : Allocs} (hc : b.children[upperBound b.keys k]? = some c)
    (hrec : removeRec cap h c k al = some (rc, al1)) :
    removeRec cap (h+1) b k al =
      if rc.old.isSome ∧ rc.under then
        (rebalance cap h (b.replace1 (upperBound b.keys k) rc.t) (upperBound b.keys k) al1).map
          fun p => (⟨p.1, rc.old, isUnderfull cap p.1.keys.length⟩, p.2)
      else some (⟨b.replace1 (upperBound b.keys k) rc.t, rc.old,
                  if rc.old.isSome then isUnderfull cap b.keys.length else false⟩, al1) := by
  conv => lhs; unfold removeRec
  simp only [hc, hrec]
  split
  · show (match rebalance cap h (b.replace1 _ rc.t) _ al1 with | none => none | some (b2, al'') => _) = _
    cases rebalance cap h (b.replace1 _ rc.t) _ al1 <;> rfl
  · rfl

theorem removeRec_induction (cap : Nat) (k : K)
    (P : (h : Nat) → Tree K V h → Allocs → Tree K V h → Allocs → Prop)
    (leaf : ∀ (l : Leaf K V) al r, removeLeaf cap l k = some r → P 0 l al r.t al)
    (stay : ∀ h (b : Branch K (Tree K V h)) al, b.children[upperBound b.keys k]? = none → P (h+1) b al b al)
    (put : ∀ h (b : Branch K (Tree K V h)) c al rc al1, b.children[upperBound b.keys k]? = some c →
      removeRec cap h c k al = some (rc, al1) → P h c al rc.t al1 → P (h+1) b al (b.replace1 (upperBound b.keys k) rc.t) al1)
    (reb : ∀ h (b : Branch K (Tree K V h)) c al rc al1 b2 al2, b.children[upperBound b.keys k]? = some c →
      removeRec cap h c k al = some (rc, al1) → P h c al rc.t al1 →
      rebalance cap h (b.replace1 (upperBound b.keys k) rc.t) (upperBound b.keys k) al1 = some (b2, al2) → P (h+1) b al b2 al2) :
    ∀ h (t : Tree K V h) al r al', removeRec cap h t k al = some (r, al') → P h t al r.t al' := by
  intro h
  induction h with
  | zero =>
    intro t al r al' he
    obtain ⟨hr, rfl⟩ := removeRec_zero_some he
    exact leaf t _ r hr
  | succ h ih =>
    intro t al r al' he
    cases hc : (Branch.children t)[upperBound (Branch.keys t) k]? with
    | none =>
      unfold removeRec at he
      simp only [hc] at he
      cases he
      exact stay h t al hc
    | some c =>
      cases hrec : removeRec cap h c k al with
      | none => unfold removeRec at he; simp [hc, hrec] at he
      | some p =>
        obtain ⟨rc, al1⟩ := p
        rw [removeRec_succ hc hrec] at he
        split at he
        · cases hreb : rebalance cap h (Branch.replace1 t (upperBound (Branch.keys t) k) rc.t) (upperBound (Branch.keys t) k) al1 with
          | none => rw [hreb] at he; cases he
          | some q => rw [hreb] at he; cases he; exact reb h t c al rc _ q.1 q.2 hc hrec (ih c al rc _ hrec) hreb
        · cases he; exact put h t c al rc _ hc hrec (ih c al rc _ hrec)

end BPT.Rust
