import BPT.Props.C02
/-
  C11 — Rust map never leaks or duplicates the keys and values it stores (the logic part).

  Values are a multiset moved between the caller and the map: `values after ++ returned` is a permutation of
  `values before ++ inserted` for insert and remove, on the reference map; `C01.step_refines` carries it to the
  implementation (no theorem here combines the two).  Live keys held on the map's behalf are the leaf keys (one per
  entry) and the separator keys (clones).  That `Vec`/arena drop runs each destructor exactly once is Rust's ownership
  discipline: observed by the harness's instance counters and tied by `Tie.no_manual_ownership`, not proved here.
-/
namespace BPT.Props.C11
open BPT BPT.Rust Tree

variable {K V : Type} [Keyed K]

def vals (m : List (K × V)) : List V := m.map (·.2)

/-- insert, on the reference map: values afterwards + the displaced one = values before + the new one
    (so the displaced object is the very one that was stored, and nothing is duplicated or lost) -/
theorem insert_conserves (m : List (K × V)) (k : K) (v : V) (hs : SMap.Sorted m) :
    (vals (SMap.insert m k v) ++ ((SMap.lookup m k).map (·.2)).toList).Perm (v :: vals m) := by
  induction m with
  | nil => simp [SMap.insert, SMap.lookup, vals]
  | cons a m ih =>
    simp only [SMap.insert, SMap.lookup_cons]
    by_cases h1 : ord k < ord a.1
    · rw [if_pos h1, if_neg (Int.ne_of_gt h1), hs.lookup_tail (Int.le_of_lt h1)]
      simp [vals]
    · rw [if_neg h1]
      by_cases h2 : ord k = ord a.1
      · rw [if_pos h2, if_pos h2.symm]
        exact List.Perm.cons v (List.perm_append_singleton a.2 _)
      · rw [if_neg h2, if_neg (Ne.symm h2)]
        exact (List.Perm.cons a.2 (ih hs.tail)).trans (List.Perm.swap v a.2 _)

/-- remove, on the reference map: values afterwards + the returned one = values before -/
theorem remove_conserves (m : List (K × V)) (k : K) :
    (vals (SMap.erase m k) ++ ((SMap.lookup m k).map (·.2)).toList).Perm (vals m) := by
  induction m with
  | nil => simp [SMap.erase, SMap.lookup, vals]
  | cons a m ih =>
    simp only [SMap.erase, SMap.lookup_cons]
    by_cases h2 : ord a.1 = ord k
    · rw [if_pos h2, if_pos h2]
      exact List.perm_append_singleton a.2 _
    · rw [if_neg h2, if_neg h2]
      exact List.Perm.cons a.2 ih

/-- the number of value objects the map owns is `len()` (one per entry), on every reachable state -/
theorem live_values_eq_len (s : RState K V) (hi : Inv s) : (vals (abs s)).length = len s := by
  rw [len_spec s hi]; simp [vals]

/-- number of separator keys (clones held by branches) -/
def sepKeys : (h : Nat) → Tree K V h → Nat
  | 0, _ => 0
  | h+1, (b : Branch K (Tree K V h)) => b.keys.length + (b.children.map (sepKeys h)).sum

/-- number of key objects in leaves -/
def leafKeys (h : Nat) (t : Tree K V h) : Nat := ((leaves h t).map (fun l => l.keys.length)).sum

theorem leaf_keys_eq_len (s : RState K V) (hi : Inv s) : leafKeys s.height s.root = len s :=
  (leaves_keys_sum s.height s.root none none hi.ord).trans (len_spec s hi).symm

/-- `leaf_keys_eq_len` with the separator clones added on both sides (nothing is bounded about `sepKeys` itself) -/
theorem live_keys_bounds (s : RState K V) (hi : Inv s) :
    len s ≤ leafKeys s.height s.root + sepKeys s.height s.root ∧
    leafKeys s.height s.root + sepKeys s.height s.root ≤ len s + sepKeys s.height s.root := by
  rw [leaf_keys_eq_len s hi]; omega

/-- slots that are not reachable hold the default (empty) node: they own no key or value -/
theorem freed_slots_default (s : RState K V) (i : Nat) (hi : i < s.al.leaf.len)
    (hfree : i ∉ (leaves s.height s.root).map (·.id)) :
    (view s).leaves.storage[i]? = some (dfltLeaf : RLeaf K V) ∧ (dfltLeaf : RLeaf K V).keys = [] ∧ (dfltLeaf : RLeaf K V).vals = [] := by
  refine ⟨?_, rfl, rfl⟩
  simp only [view, viewLeaves, List.getElem?_map, List.getElem?_range hi, Option.map_some]
  rw [find?_none_of_not_mem (fun (l : Leaf K V) => l.id) i hfree]

/-- after `clear` the single leaf owns nothing -/
theorem clear_owns_nothing (s : RState K V) : abs (clear s) = [] ∧ sepKeys (clear s).height (clear s).root = 0 :=
  ⟨rfl, rfl⟩

/-- non-vacuity: at a concrete three-level state (`C02.demo_state`) the live values are exactly the entries -/
example : ∃ s : RState Int Nat, s.height = 2 ∧ (vals (abs s)).length = len s ∧ len s = 30 := by
  obtain ⟨s, hs, _, hh, hl, _⟩ := C02.demo_state
  have h1 := live_values_eq_len s hs.inv
  refine ⟨s, hh, h1, ?_⟩
  rw [← h1]; simpa [vals] using hl

end BPT.Props.C11
