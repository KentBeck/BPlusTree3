import BPT.Core.Lists
/- Vec / list operations as take/drop forms; what they do is said at the seam of an append, the form the
   proofs about trees use.  Imports only `Core/Lists` (usable from the driver executable). -/
namespace BPT

variable {α : Type}

def insertAt (l : List α) (i : Nat) (x : α) : List α := l.take i ++ x :: l.drop i
def setAt (l : List α) (i : Nat) (x : α) : List α := l.take i ++ x :: l.drop (i+1)
def removeAt (l : List α) (i : Nat) : List α := l.take i ++ l.drop (i+1)

-- In the four `perm_*` what a step takes out of the list and what it puts in stand in front, as `perm_add` takes its summands.
theorem perm_insertAt (l : List α) (i : Nat) (x : α) : (insertAt l i x).Perm (x :: l) := by
  unfold insertAt
  have h1 : (l.take i ++ x :: l.drop i).Perm (x :: (l.take i ++ l.drop i)) := List.perm_middle
  rw [List.take_append_drop] at h1
  exact h1

theorem perm_setAt (l : List α) (i : Nat) (x old : α) (h : l[i]? = some old) : (old :: setAt l i x).Perm (x :: l) := by
  conv => rhs; rw [eq_take_cons_drop l i old h]
  exact ((List.perm_middle.cons old).trans (List.Perm.swap x old _)).trans (List.perm_middle.symm.cons x)

theorem perm_removeAt (l : List α) (i : Nat) (x : α) (h : l[i]? = some x) : (x :: removeAt l i).Perm l := by
  conv => rhs; rw [eq_take_cons_drop l i x h]
  exact List.perm_middle.symm

theorem perm_split1 (l : List α) (i q : Nat) (a b c : α) (h : l[i]? = some c) :
    (c :: insertAt (setAt l i a) q b).Perm (a :: b :: l) :=
  ((perm_insertAt _ q b).cons c).trans ((List.Perm.swap b c _).trans (((perm_setAt l i a c h).cons b).trans (List.Perm.swap a b l)))

theorem removeAt_eq_eraseIdx (l : List α) (i : Nat) : removeAt l i = l.eraseIdx i :=
  (List.eraseIdx_eq_take_drop_succ l i).symm

theorem setAt_eq_set (l : List α) (i : Nat) (x : α) (h : i < l.length) : setAt l i x = l.set i x := by
  rw [List.set_eq_take_append_cons_drop, if_pos h]; rfl

theorem length_insertAt {l : List α} {i : Nat} {x : α} :
    (insertAt l i x).length = l.length + 1 := by
  rw [← List.length_cons (a := x), (perm_insertAt l i x).length_eq]

theorem length_setAt {l : List α} {i : Nat} {x : α} (h : i < l.length) :
    (setAt l i x).length = l.length := by
  rw [setAt_eq_set l i x h, List.length_set]

theorem length_removeAt {l : List α} {i : Nat} (h : i < l.length) :
    (removeAt l i).length = l.length - 1 := by
  rw [removeAt_eq_eraseIdx, List.length_eraseIdx, if_pos h]

theorem getElem?_setAt {l : List α} {i j : Nat} {x : α} (h : i < l.length) :
    (setAt l i x)[j]? = if j = i then some x else l[j]? := by
  rw [setAt_eq_set l i x h, List.getElem?_set, if_pos h]
  by_cases e : j = i
  · rw [if_pos e, if_pos e.symm]
  · rw [if_neg e, if_neg (Ne.symm e)]

theorem mem_insertAt {l : List α} {i : Nat} {x y : α} : y ∈ insertAt l i x ↔ y = x ∨ y ∈ l :=
  (perm_insertAt l i x).mem_iff.trans List.mem_cons

theorem eq_or_mem_of_mem_setAt (l : List α) (i : Nat) (x y : α) (h : y ∈ setAt l i x) : y = x ∨ y ∈ l :=
  (List.mem_append.1 h).elim (fun h => .inr (List.mem_of_mem_take h)) fun h =>
    (List.mem_cons.1 h).imp_right List.mem_of_mem_drop

theorem mem_of_mem_removeAt {l : List α} {i : Nat} {y : α} (h : y ∈ removeAt l i) : y ∈ l :=
  List.mem_of_mem_eraseIdx (removeAt_eq_eraseIdx l i ▸ h)

theorem setAt_eq_self {l : List α} {i : Nat} {x : α} (h : l[i]? = some x) : setAt l i x = l := by
  unfold setAt; exact (eq_take_cons_drop l i x h).symm

theorem flatMap_setAt {β : Type} (f : α → List β) (l : List α) (i : Nat) (x : α) :
    (setAt l i x).flatMap f = (l.take i).flatMap f ++ f x ++ (l.drop (i+1)).flatMap f := by
  simp [setAt, List.flatMap_append]

theorem setAt_append_cons (L R : List α) (c x : α) : setAt (L ++ c :: R) L.length x = L ++ x :: R := by
  simp [setAt]

theorem insertAt_append (L R : List α) (x : α) : insertAt (L ++ R) L.length x = L ++ x :: R := by
  simp [insertAt]

theorem removeAt_append_cons (L R : List α) (c : α) : removeAt (L ++ c :: R) L.length = L ++ R := by
  simp [removeAt]

theorem insertAt_append_left {A B : List α} {i : Nat} {x : α} (h : i ≤ A.length) :
    insertAt (A ++ B) i x = insertAt A i x ++ B := by
  simp [insertAt, List.take_append_of_le_length h, List.drop_append_of_le_length h]

theorem insertAt_append_right (A B : List α) (j : Nat) (x : α) :
    insertAt (A ++ B) (A.length + j) x = A ++ insertAt B j x := by
  simp [insertAt, List.take_length_add_append]

theorem insertAt_setAt_eq {l : List α} {i : Nat} {a b : α} (h : i < l.length) :
    insertAt (setAt l i a) (i+1) b = l.take i ++ a :: b :: l.drop (i+1) := by
  have hl : (l.take i ++ [a]).length = i + 1 := by rw [List.length_append, List.length_take_of_le (Nat.le_of_lt h)]; rfl
  have := insertAt_append (l.take i ++ [a]) (l.drop (i+1)) b
  rw [hl, List.append_assoc, List.append_assoc] at this
  exact this

theorem setAt_setAt_succ {l : List α} {j : Nat} {x y : α} (h : j + 1 < l.length) :
    setAt (setAt l j x) (j+1) y = l.take j ++ x :: y :: l.drop (j+2) := by
  have hl : (l.take j ++ [x]).length = j + 1 := by rw [List.length_append, List.length_take_of_le (by omega)]; rfl
  have := setAt_append_cons (l.take j ++ [x]) (l.drop (j+2)) l[j+1] y
  rw [hl, ← List.drop_eq_getElem_cons h, List.append_assoc, List.append_assoc] at this
  exact this

theorem removeAt_setAt_succ {l : List α} {j : Nat} {m : α} (h : j + 1 < l.length) :
    removeAt (setAt l j m) (j+1) = l.take j ++ m :: l.drop (j+2) := by
  have hl : (l.take j ++ [m]).length = j + 1 := by rw [List.length_append, List.length_take_of_le (by omega)]; rfl
  have := removeAt_append_cons (l.take j ++ [m]) (l.drop (j+2)) l[j+1]
  rw [hl, ← List.drop_eq_getElem_cons h, List.append_assoc, List.append_assoc] at this
  exact this

theorem flatMap_split1 {β : Type} (f : α → List β) {l : List α} {i : Nat} {a b : α} (h : i < l.length) :
    (insertAt (setAt l i a) (i+1) b).flatMap f = (l.take i).flatMap f ++ (f a ++ f b) ++ (l.drop (i+1)).flatMap f := by
  rw [insertAt_setAt_eq h]
  simp [List.flatMap_append]

theorem take_insertAt_le {l : List α} {i m : Nat} {x : α} (h : i ≤ m) (hm : m ≤ l.length) :
    (insertAt l i x).take (m+1) = insertAt (l.take m) i x := by
  have hl : (l.take m).length = m := List.length_take_of_le hm
  conv => lhs; rw [← List.take_append_drop m l, insertAt_append_left (hl.symm ▸ h)]
  exact List.take_left' (by rw [length_insertAt, hl])

theorem drop_insertAt_le {l : List α} {i m : Nat} {x : α} (h : i ≤ m) (hm : m ≤ l.length) :
    (insertAt l i x).drop (m+1) = l.drop m := by
  have hl : (l.take m).length = m := List.length_take_of_le hm
  conv => lhs; rw [← List.take_append_drop m l, insertAt_append_left (hl.symm ▸ h)]
  exact List.drop_left' (by rw [length_insertAt, hl])

theorem take_insertAt_gt {l : List α} {i m : Nat} {x : α} (h : m < i) (hi : i ≤ l.length) :
    (insertAt l i x).take m = l.take m := by
  have hl : (l.take m).length = m := List.length_take_of_le (Nat.le_trans (Nat.le_of_lt h) hi)
  have e : i = (l.take m).length + (i - m) := by rw [hl, Nat.add_sub_cancel' (Nat.le_of_lt h)]
  conv => lhs; rw [← List.take_append_drop m l, e, insertAt_append_right]
  exact List.take_left' hl

theorem drop_insertAt_gt {l : List α} {i m : Nat} {x : α} (h : m < i) (hi : i ≤ l.length) :
    (insertAt l i x).drop m = insertAt (l.drop m) (i - m) x := by
  have hl : (l.take m).length = m := List.length_take_of_le (Nat.le_trans (Nat.le_of_lt h) hi)
  have e : i = (l.take m).length + (i - m) := by rw [hl, Nat.add_sub_cancel' (Nat.le_of_lt h)]
  conv => lhs; rw [← List.take_append_drop m l, e, insertAt_append_right]
  exact List.drop_left' hl

theorem zip_insertAt {β : Type} (l : List α) (r : List β) (i : Nat) (x : α) (y : β) (h : l.length = r.length) :
    (insertAt l i x).zip (insertAt r i y) = insertAt (l.zip r) i (x, y) := by
  unfold insertAt
  rw [List.zip_append (by rw [List.length_take, List.length_take, h]), List.zip_cons_cons, take_zip, drop_zip]

theorem zip_removeAt {β : Type} {l : List α} {r : List β} {i : Nat} (h : l.length = r.length) :
    (removeAt l i).zip (removeAt r i) = removeAt (l.zip r) i := by
  unfold removeAt
  rw [List.zip_append (by rw [List.length_take, List.length_take, h]), take_zip, drop_zip]

theorem zip_setAt_right {β : Type} (l : List α) (r : List β) {i : Nat} (x : α) (y : β) (h : l.length = r.length) (hx : l[i]? = some x) :
    l.zip (setAt r i y) = setAt (l.zip r) i (x, y) := by
  conv => lhs; rw [eq_take_cons_drop l i x hx]
  unfold setAt
  rw [List.zip_append (by rw [List.length_take, List.length_take, h]), List.zip_cons_cons, take_zip, drop_zip]

end BPT
