import BPT.Core.Ordered
/-
  The occupancy policy of the three trees and its arithmetic.  A node holds at most `cap` keys, a branch keeps `e`
  places free below `cap`, and every node but the root holds at least the minimum `m`: Rust `m = cap / 2`, `e = 0`;
  Python `m = (cap - 1) / 2`, `e = 1` (a branch splits on reaching `cap` keys); C `m = 0`, `e = 0` (no rebalancing).
  The size lemmas are about variables and take the lengths concerned as equations (`∀ L R, L = … →`, `hs : s = m - 1`),
  so that no `omega` runs among a caller's hypotheses.
-/
namespace BPT
variable {K V : Type}

/-- `n` bounds the node `t` itself from below, `m` every node under it: a root, or a node that has just lost a key, holds fewer -/
def Occ (cap m e : Nat) : (h : Nat) → Tree K V h → Nat → Prop
  | 0, (l : Leaf K V), n => n ≤ l.keys.length ∧ l.keys.length ≤ cap
  | h+1, (b : Branch K (Tree K V h)), n => n ≤ b.keys.length ∧ b.keys.length + e ≤ cap ∧ ∀ c ∈ b.children, Occ cap m e h c m

theorem occ_leaf {cap m e n : Nat} {l : Leaf K V} : Occ cap m e 0 (l : Tree K V 0) n ↔ n ≤ l.keys.length ∧ l.keys.length ≤ cap :=
  Iff.rfl

theorem occ_branch {cap m e h n : Nat} {b : Branch K (Tree K V h)} :
    Occ cap m e (h+1) (b : Tree K V (h+1)) n ↔
      n ≤ b.keys.length ∧ b.keys.length + e ≤ cap ∧ ∀ c ∈ b.children, Occ cap m e h c m :=
  Iff.rfl

theorem Occ.nkeys {cap m e : Nat} : ∀ {h : Nat} {t : Tree K V h} {n : Nat}, Occ cap m e h t n → n ≤ nkeys h t ∧ nkeys h t ≤ cap
  | 0, _, _, hs => hs
  | _+1, _, _, hs => ⟨hs.1, Nat.le_trans (Nat.le_add_right _ _) hs.2.1⟩

theorem Occ.children {cap m e h n : Nat} {b : Branch K (Tree K V h)} (hb : Occ cap m e (h+1) (b : Tree K V (h+1)) n) :
    ∀ c ∈ b.children, Occ cap m e h c m := hb.2.2

/-- A leaf of `n` keys takes one more and is cut at `p`, one of the two places next to a `mid` that leaves `m` keys on
    either side. -/
theorem leaf_split_sizes {cap m n mid p : Nat} (hm : 1 ≤ m) (h1 : m ≤ mid) (h2 : mid + m ≤ n) (hp : mid ≤ p ∧ p ≤ mid + 1) :
    mid ≤ n ∧ 0 < p ∧ p < n + 1 ∧
    ∀ L R, L = p → R = n + 1 - p → n ≤ cap → (m ≤ L ∧ L ≤ cap) ∧ (m ≤ R ∧ R ≤ cap) :=
  ⟨by omega, by omega, by omega, fun L R hL hR hn => by omega⟩

/-- A branch of `n` keys, one more than fit, is cut around the key at `mid`. -/
theorem branch_split_sizes {cap m n mid : Nat} (e : Nat) (h1 : m ≤ mid) (h2 : mid + m + e ≤ cap) (hn : n + e = cap + 1) :
    mid < n ∧ ∀ L R, L = mid → R = n - (mid + 1) → (m ≤ L ∧ L + e ≤ cap) ∧ (m ≤ R ∧ R + e ≤ cap) :=
  ⟨by omega, fun L R hL hR => by omega⟩

/-- One key moves from a donor of `d > m` keys to the node one short of `m`. -/
theorem borrow_sizes {cap m d s : Nat} (e : Nat) (hd : m < d) (hdc : d + e ≤ cap) (hs : s = m - 1) :
    (m ≤ d - 1 ∧ d - 1 + e ≤ cap) ∧ (m ≤ s + 1 ∧ s + 1 + e ≤ cap) := by omega

/-- A node that cannot donate (`m` keys) and the one short of `m` fit into one node of `n` keys, the separator (of
    branches) included. -/
theorem merge_sizes {cap m n : Nat} (e : Nat) (hm : 1 ≤ m) (hmc : 2 * m + e ≤ cap) (hn : n = m + (m - 1)) :
    m ≤ n ∧ n + 1 + e ≤ cap := by omega

end BPT
