import BPT.Core.Tree
/- Strictly sorted key lists (`KSorted`) and the two searches on them: `lowerBound` (`binary_search`,
   `bisect_left`) and `upperBound` (`find_child_index`, `bisect_right`) as `takeWhile` counts. -/
namespace BPT
variable {K V : Type} [Keyed K]

def KSorted (ks : List K) : Prop := ks.Pairwise (fun a b => ord a < ord b)

theorem KSorted.getElem?_lt {ks : List K} (hs : KSorted ks) {i j : Nat} {a b : K} (ha : ks[i]? = some a) (hb : ks[j]? = some b)
    (hij : i < j) : ord a < ord b := by
  obtain ⟨hi, rfl⟩ := List.getElem?_eq_some_iff.1 ha
  obtain ⟨hj, rfl⟩ := List.getElem?_eq_some_iff.1 hb
  exact List.pairwise_iff_getElem.1 hs i j hi hj hij

theorem KSorted.getElem?_le {ks : List K} (hs : KSorted ks) {i j : Nat} {a b : K} (ha : ks[i]? = some a) (hb : ks[j]? = some b)
    (hij : i ≤ j) : ord a ≤ ord b := by
  rcases Nat.lt_or_eq_of_le hij with h | rfl
  · exact Int.le_of_lt (hs.getElem?_lt ha hb h)
  · rw [ha] at hb; cases hb; exact Int.le_refl _

theorem lowerBound_nil (k : K) : lowerBound ([] : List K) k = 0 := rfl
theorem lowerBound_cons (a : K) (ks : List K) (k : K) :
    lowerBound (a :: ks) k = if ord a < ord k then lowerBound ks k + 1 else 0 := by
  unfold lowerBound
  by_cases h : ord a < ord k <;> simp [h]

theorem takeWhile_sorted (P : K → Prop) [DecidablePred P] (ks : List K) (hs : KSorted ks)
    (hp : ∀ x y, ord x < ord y → P y → P x) :
    (∀ x ∈ ks.take (ks.takeWhile (fun x => decide (P x))).length, P x) ∧
    (∀ x ∈ ks.drop (ks.takeWhile (fun x => decide (P x))).length, ¬ P x) := by
  rw [take_length_takeWhile, drop_length_takeWhile]
  exact ⟨fun x hx => of_decide_eq_true (List.all_eq_true.1 List.all_takeWhile x hx), fun x hx =>
    of_decide_eq_false (dropWhile_false_of_pairwise hs (fun x y h hy => decide_eq_true (hp x y h (of_decide_eq_true hy))) x hx)⟩

theorem lowerBound_le (ks : List K) (k : K) : lowerBound ks k ≤ ks.length := takeWhile_length_le ks

theorem lowerBound_spec (ks : List K) (k : K) (hs : KSorted ks) :
    (∀ x ∈ ks.take (lowerBound ks k), ord x < ord k) ∧ (∀ x ∈ ks.drop (lowerBound ks k), ord k ≤ ord x) := by
  have := takeWhile_sorted (fun x => ord x < ord k) ks hs (fun x y hxy hy => Int.lt_trans hxy hy)
  exact ⟨this.1, fun x hx => Int.not_lt.1 (this.2 x hx)⟩

theorem lt_lowerBound_iff (ks : List K) (k : K) (hs : KSorted ks) {i : Nat} {x : K} (hx : ks[i]? = some x) :
    i < lowerBound ks k ↔ ord x < ord k := by
  obtain ⟨h1, h2⟩ := lowerBound_spec ks k hs
  constructor
  · exact fun hi => h1 x (mem_take_iff_getElem?.2 ⟨i, hi, hx⟩)
  · intro hlt
    refine Nat.lt_of_not_le fun hi => ?_
    have := h2 x (mem_drop_iff_getElem?.2 ⟨i - lowerBound ks k, by rwa [Nat.add_sub_cancel' hi]⟩)
    omega

theorem lowerBound_strict (ks : List K) (k : K) (hs : KSorted ks)
    (hnf : ∀ k', ks[lowerBound ks k]? = some k' → ord k' ≠ ord k) :
    ∀ x ∈ ks.drop (lowerBound ks k), ord k < ord x := by
  intro x hx
  have hge := (lowerBound_spec ks k hs).2
  -- the key at the bound is at least `k` and is not `k`; the others lie above it
  obtain ⟨j, hj⟩ := mem_drop_iff_getElem?.1 hx
  obtain ⟨y, hy⟩ := exists_getElem? (show lowerBound ks k < ks.length by have := lt_of_getElem?_eq_some hj; omega)
  have := hge y (mem_drop_iff_getElem?.2 ⟨0, hy⟩)
  have := hnf y hy
  have := hs.getElem?_le hy hj (Nat.le_add_right _ j)
  omega

theorem lowerBound_sep (ks : List K) (i : Nat) (sep : K) (hi' : i ≤ ks.length)
    (h1 : ∀ x ∈ ks.take i, ord x < ord sep) (h2 : ∀ x ∈ ks.drop i, ord sep < ord x) : lowerBound ks sep = i := by
  have hd : (ks.drop i).takeWhile (fun x => decide (ord x < ord sep)) = [] := by
    cases hd : ks.drop i with
    | nil => rfl
    | cons a t =>
      have := h2 a (hd ▸ List.mem_cons_self)
      exact List.takeWhile_cons_of_neg (by rw [decide_eq_true_iff]; omega)
  unfold lowerBound
  conv => lhs; rw [← List.take_append_drop i ks, List.takeWhile_append_of_pos fun a ha => decide_eq_true (h1 a ha)]
  rw [hd, List.append_nil, List.length_take, Nat.min_eq_left hi']

theorem lowerBound_hit_or_miss (ks : List K) (k : K) :
    (∃ k', ks[lowerBound ks k]? = some k' ∧ ord k' = ord k) ∨ (∀ k', ks[lowerBound ks k]? = some k' → ord k' ≠ ord k) :=
  (Classical.em _).imp_right fun hf k' hk' he => hf ⟨k', hk', he⟩

theorem map_ord_ne_of_miss {o : Option K} {k : K} (hnf : ∀ k', o = some k' → ord k' ≠ ord k) : ¬ o.map ord = some (ord k) :=
  fun h => let ⟨k', hk', he⟩ := Option.map_eq_some_iff.1 h; hnf k' hk' he

theorem upperBound_cons (a : K) (ks : List K) (k : K) :
    upperBound (a :: ks) k = if ord a ≤ ord k then upperBound ks k + 1 else 0 := by
  unfold upperBound
  by_cases h : ord a ≤ ord k <;> simp [h]

theorem upperBound_le (ks : List K) (k : K) : upperBound ks k ≤ ks.length := takeWhile_length_le ks

theorem upperBound_spec (ks : List K) (k : K) (hs : KSorted ks) :
    (∀ x ∈ ks.take (upperBound ks k), ord x ≤ ord k) ∧ (∀ x ∈ ks.drop (upperBound ks k), ord k < ord x) := by
  have := takeWhile_sorted (fun x => ord x ≤ ord k) ks hs (fun x y hxy hy => Int.le_trans (Int.le_of_lt hxy) hy)
  exact ⟨this.1, fun x hx => Int.not_le.1 (this.2 x hx)⟩

theorem lowerBound_take (ks : List K) (k : K) (m : Nat) (h : lowerBound ks k ≤ m) :
    lowerBound (ks.take m) k = lowerBound ks k := by
  unfold lowerBound at h ⊢
  rw [← List.take_takeWhile, List.length_take, Nat.min_eq_right h]

theorem lowerBound_drop (ks : List K) (k : K) (m : Nat) (h : m ≤ lowerBound ks k) :
    lowerBound (ks.drop m) k = lowerBound ks k - m := by
  have hm : m ≤ ks.length := Nat.le_trans h (lowerBound_le ks k)
  unfold lowerBound at h ⊢
  -- the first `m` keys all pass the test, so the count goes on behind them
  have e : ((ks.take m).takeWhile (fun x => decide (ord x < ord k))).length = (ks.take m).length := by
    rw [← List.take_takeWhile, List.length_take, List.length_take, Nat.min_eq_left h, Nat.min_eq_left hm]
  conv => rhs; rw [← List.take_append_drop m ks, List.takeWhile_append, if_pos e, List.length_append, List.length_take, Nat.min_eq_left hm]
  exact (Nat.add_sub_cancel_left ..).symm

theorem lt_getElem_iff_lowerBound_le (ks : List K) (k : K) (m : Nat) (x : K) (hs : KSorted ks)
    (hnf : ∀ k', ks[lowerBound ks k]? = some k' → ord k' ≠ ord k) (hm : ks[m]? = some x) :
    ord k < ord x ↔ lowerBound ks k ≤ m := by
  constructor
  · intro hlt
    refine Nat.le_of_not_lt fun h => ?_
    have := (lt_lowerBound_iff ks k hs hm).1 h; omega
  · intro hle
    exact lowerBound_strict ks k hs hnf x (mem_drop_iff_getElem?.2 ⟨m - lowerBound ks k, by rwa [Nat.add_sub_cancel' hle]⟩)

theorem ksorted_insertAt {ks : List K} {i : Nat} (sep : K) (hs : KSorted ks)
    (h1 : ∀ x ∈ ks.take i, ord x < ord sep) (h2 : ∀ x ∈ ks.drop i, ord sep < ord x) :
    KSorted (insertAt ks i sep) := by
  unfold insertAt KSorted
  rw [List.pairwise_append]
  refine ⟨hs.sublist (List.take_sublist _ _), ?_, ?_⟩
  · rw [List.pairwise_cons]; exact ⟨h2, hs.sublist (List.drop_sublist _ _)⟩
  · intro a ha b hb
    rcases List.mem_cons.1 hb with rfl | hb
    · exact h1 a ha
    · have := h1 a ha; have := h2 b hb; omega

theorem ksorted_removeAt {ks : List K} {i : Nat} (hs : KSorted ks) : KSorted (removeAt ks i) :=
  removeAt_eq_eraseIdx ks i ▸ hs.sublist (List.eraseIdx_sublist ks i)

theorem ksorted_append3 (kl km kr : List K) :
    KSorted (kl ++ km ++ kr) ↔ KSorted kl ∧ KSorted km ∧ KSorted kr ∧
      (∀ x ∈ kl, ∀ y ∈ km, ord x < ord y) ∧ (∀ x ∈ km, ∀ y ∈ kr, ord x < ord y) ∧ (∀ x ∈ kl, ∀ y ∈ kr, ord x < ord y) := by
  unfold KSorted
  simp only [List.pairwise_append, List.mem_append]
  constructor
  · rintro ⟨⟨a, b, c⟩, d, e⟩
    exact ⟨a, b, d, c, fun x hx y hy => e x (.inr hx) y hy, fun x hx y hy => e x (.inl hx) y hy⟩
  · rintro ⟨a, b, d, c, e1, e2⟩
    exact ⟨⟨a, b, c⟩, d, fun x hx y hy => hx.elim (fun hx => e2 x hx y hy) (fun hx => e1 x hx y hy)⟩

theorem zip_sorted {ks : List K} {vs : List V} (hs : KSorted ks) : SMap.Sorted (ks.zip vs) := by
  induction ks generalizing vs with
  | nil => simp [SMap.Sorted]
  | cons a as ih =>
    cases vs with
    | nil => simp [SMap.Sorted]
    | cons b bs =>
      have hs' := List.pairwise_cons.1 hs
      unfold SMap.Sorted
      rw [List.zip_cons_cons, List.pairwise_cons]
      refine ⟨?_, ih hs'.2⟩
      intro p hp
      exact hs'.1 p.1 (List.of_mem_zip hp).1

theorem sorted_keys_of_sorted (m : List (K × V)) (h : SMap.Sorted m) : KSorted (m.map (·.1)) := by
  unfold KSorted SMap.Sorted at *
  rw [List.pairwise_map]
  exact h

end BPT
