import BPT.Rust.NoUB
import BPT.Props.C02
/-
  C05 — Rust unchecked fast paths never touch unallocated or out-of-range slots (map-level API).

  The crate's only unchecked access on a map-level path is P1,
  `get_key_value_unchecked(i)` in `ItemIterator::try_get_next_item`
  (`Tie.unchecked_calls_catalogue`: every other call of an unchecked accessor is the
  body of another accessor; mutators, lookups, validators contain none).  In the
  model that read is `Res.ub` whenever `i` is outside the key or the value array.
-/
namespace BPT.Props.C05
open BPT BPT.Rust RawMap

variable {K V : Type} [Keyed K]

/-- the readers of `C15.no_ub_from_any_state`, at `view s` for any `s` (no hypothesis: this is `readers_noub`) -/
theorem readers_safe_on_reachable (s : RState K V) (lo hi : Bound K) (a b : Option K) (k : K) (e : Bound K) :
    NoUB ((view s).items Cfg.repaired) ∧ NoUB ((view s).itemsFast Cfg.repaired) ∧ NoUB ((view s).keys Cfg.repaired) ∧
    NoUB ((view s).values Cfg.repaired) ∧ NoUB ((view s).first Cfg.repaired) ∧ NoUB ((view s).last Cfg.repaired) ∧
    NoUB ((view s).range Cfg.repaired lo hi) ∧ NoUB ((view s).itemsRange Cfg.repaired a b) ∧
    NoUB ((view s).itemsFromKey Cfg.repaired k e) ∧ NoUB ((view s).get k) ∧ NoUB (view s).len :=
  readers_noub (view s) lo hi a b k e

/-- on valid maps P1 is in bounds even without the second guard: the code as found was safe on API-built maps -/
theorem p1_safe_on_valid_maps_even_unguarded (s : RState K V) (hs : SInv s) (hsm : Small s) :
    (view s).items { guardBoth := false } = .ok (abs s) := view_items _ s hs hsm

/-- partially consumed iterators: every single `next()` is safe in any state (the statement of `C15.next_no_ub`) -/
theorem next_safe_any_state (m : RawMap K V) (f : Nat) (st : ItState K V) (r : RangeState K V) (fs : FastState K V) :
    NoUB (itemNext Cfg.repaired m f st) ∧ NoUB (rangeNext Cfg.repaired m f r) ∧ NoUB (fastNext Cfg.repaired m f fs) :=
  next_noub m f st r fs

/-- non-vacuity at `C02.demo_state`: the unguarded P1 read stays in bounds -/
example : ∃ s : RState Int Nat, s.height = 2 ∧ s.al.leaf.free.length = 5 ∧ (view s).items { guardBoth := false } = .ok (abs s) := by
  obtain ⟨s, hs, hsm, hh, _, hf⟩ := C02.demo_state
  exact ⟨s, hh, hf, p1_safe_on_valid_maps_even_unguarded s hs hsm⟩

end BPT.Props.C05
