import BPT.Rust.BranchReach
import BPT.Rust.CheckedSpec
/-
  C14 — Rust validators reject every documented kind of structural damage.

  Soundness holds for EVERY raw map: `check_invariants() = true` gives `NodeOK` at every reachable node.  The
  clauses of the property are the contrapositives below, one per damage kind; those about the leaf chain and about
  unreachable or unlisted slots (`detailed_sound` and its three contrapositives) assume `CapsIntact`.
-/
namespace BPT.Props.C14
open BPT BPT.Rust RawMap

variable {K V : Type} [Keyed K]

/-- every reachable node satisfies the node conditions, for some interval -/
theorem reach_ok (m : RawMap K V) (h : m.checkInvariants Cfg.repaired = .ok true) :
    ∀ n r, Reach m n r → ∃ lo hi, NodeOK m n lo hi r :=
  fun _ _ hr => (checkInvariants_sound m h).of_reach hr

/-- a reference to a node that is not allocated -/
theorem rejects_dangling_reference (m : RawMap K V) (n : NodeRef) (r : Bool) (hr : Reach m n r)
    (hd : match n with | .leaf id => m.getLeaf id = none | .branch id => m.getBranch id = none) :
    m.checkInvariants Cfg.repaired ≠ .ok true := by
  intro h
  obtain ⟨lo, hi, hok⟩ := reach_ok m h n r hr
  cases hok with
  | leaf id l _ _ _ hg => exact nomatch hg.symm.trans hd
  | branch id b _ _ _ hg => exact nomatch hg.symm.trans hd

/-- a leaf with unsorted or duplicated keys, differing key and value counts, or above capacity -/
theorem rejects_bad_leaf (m : RawMap K V) (id : Nat) (l : RLeaf K V) (r : Bool) (hr : Reach m (.leaf id) r)
    (hg : m.getLeaf id = some l)
    (hbad : ¬ KSorted l.keys ∨ l.keys.length ≠ l.vals.length ∨ m.cap < l.keys.length) :
    m.checkInvariants Cfg.repaired ≠ .ok true := by
  intro h
  obtain ⟨lo, hi, hok⟩ := reach_ok m h _ r hr
  obtain ⟨h1, h2, h3, _⟩ := hok.leaf_inv hg
  exact hbad.elim (· h2) (·.elim (· h1) (Nat.not_lt.2 h3))

/-- a branch with unsorted or duplicated keys, wrong arity, or above capacity -/
theorem rejects_bad_branch (m : RawMap K V) (id : Nat) (b : RBranch K) (r : Bool) (hr : Reach m (.branch id) r)
    (hg : m.getBranch id = some b)
    (hbad : ¬ KSorted b.keys ∨ b.keys.length + 1 ≠ b.children.length ∨ m.cap < b.keys.length) :
    m.checkInvariants Cfg.repaired ≠ .ok true := by
  intro h
  obtain ⟨lo, hi, hok⟩ := reach_ok m h _ r hr
  obtain ⟨h1, h2, h3, _⟩ := hok.branch_inv hg
  exact hbad.elim (· h2) (·.elim (· h1) (Nat.not_lt.2 h3))

/-- a non-root node below minimum occupancy — including an emptied one (D3) -/
theorem rejects_underfull (m : RawMap K V) (n : NodeRef) (hr : Reach m n false)
    (hu : match n with
      | .leaf id => ∃ l, m.getLeaf id = some l ∧ l.keys.length < minKeys l.cap
      | .branch id => ∃ b, m.getBranch id = some b ∧ b.keys.length < minKeys b.cap) :
    m.checkInvariants Cfg.repaired ≠ .ok true := by
  intro h
  obtain ⟨lo, hi, hok⟩ := reach_ok m h n false hr
  cases n with
  | leaf id =>
    obtain ⟨l, hg, hlt⟩ := hu
    obtain ⟨_, _, _, hocc, _⟩ := hok.leaf_inv hg
    exact hocc rfl hlt
  | branch id =>
    obtain ⟨b, hg, hlt⟩ := hu
    obtain ⟨_, _, _, hocc, _⟩ := hok.branch_inv hg
    exact hocc rfl hlt

/-- a leaf key outside the interval its parent's separators allow -/
theorem rejects_out_of_interval (m : RawMap K V) (pid : Nat) (b : RBranch K) (r : Bool) (i cid : Nat) (l : RLeaf K V) (k : K)
    (hr : Reach m (.branch pid) r) (hg : m.getBranch pid = some b) (hc : b.children[i]? = some (.leaf cid))
    (hl : m.getLeaf cid = some l) (hk : k ∈ l.keys)
    (hout : (∃ s, i ≠ 0 ∧ b.keys[i-1]? = some s ∧ ord k < ord s) ∨ (∃ s, i ≠ b.keys.length ∧ b.keys[i]? = some s ∧ ord s ≤ ord k)) :
    m.checkInvariants Cfg.repaired ≠ .ok true := by
  intro h
  obtain ⟨lo, hi, hpar⟩ := reach_ok m h _ r hr
  obtain ⟨_, _, _, _, hlo, hhi⟩ := (hpar.child hg hc).leaf_inv hl
  rcases hout with ⟨s, hi0, hs, hlt⟩ | ⟨s, hil, hs, hle⟩
  · have := hlo s (by rw [if_neg hi0, hs]) k hk
    omega
  · have := hhi s (by rw [if_neg hil, hs]) k hk
    omega

/-- what `check_invariants_detailed() = Ok(())` establishes -/
theorem detailed_sound_partial (m : RawMap K V) (h : m.checkDetailed Cfg.repaired = .ok none) :
    NodeOK m m.root none none true ∧
    (∃ ks, m.keys Cfg.repaired = .ok ks ∧ strictlySorted ks = true ∧ m.len = .ok ks.length) ∧
    (∃ cnt, m.countNodes = .ok cnt ∧ cnt.1 = m.leaves.len ∧ cnt.2 = m.branches.len) ∧
    (∃ tids first cids, m.leafIds = .ok tids ∧ m.firstLeaf = .ok first ∧ m.chainIds m.fuel first = .ok cids ∧
      sortNat tids = sortNat cids) :=
  have h' := checkDetailed_ok_iff.1 h
  ⟨checkInvariants_sound m h'.1, h'.2⟩

/-- every stored leaf's own capacity field is the map's (no documented damage kind touches it; branch fields are not
    constrained) and leaves room for two keys -/
def CapsIntact (m : RawMap K V) : Prop := (∀ id l, m.getLeaf id = some l → l.cap = m.cap) ∧ 2 ≤ m.cap

/-- `CapsIntact` is no extra assumption for maps the model's API builds.  In the crate each node carries its own
    `capacity` field, read by policy and validators; that it equals the map's is the modelling convention the structural
    dump checks on every line.  A node with another capacity is where the crate's validators stop being sound. -/
theorem api_built_caps_intact (s : RState K V) (h : 2 ≤ s.cap) : CapsIntact (view s) :=
  ⟨fun id l hl => view_getLeaf_cap s id l hl, h⟩

/-- soundness of `check_invariants_detailed() = Ok(())` beyond the node level, for every raw map with intact capacity
    fields: the chain from the leftmost leaf lists exactly the tree walk's leaves, in the same ascending order, none
    twice; every allocated slot is among them and reachable -/
theorem detailed_sound (m : RawMap K V) (hc : CapsIntact m) (h : m.checkDetailed Cfg.repaired = .ok none) :
    ∃ ids first, m.leafIds = .ok ids ∧ m.firstLeaf = .ok first ∧ m.chainIds m.fuel first = .ok ids ∧
      ids.Nodup ∧ ids.Pairwise (Before m) ∧ (∀ i, m.leaves.maskAt i = true → i ∈ ids) ∧
      (∀ i, m.leaves.maskAt i = true → ∃ r, Reach m (.leaf i) r) ∧
      (∀ i, m.branches.maskAt i = true → ∃ r, Reach m (.branch i) r) := by
  obtain ⟨hroot, ⟨ks, hks, hsorted, _⟩, ⟨cnt, hcnt, hcl, hcb⟩, ⟨tids, first, cids, h1, h2, h3, h4⟩⟩ := detailed_sound_partial m h
  obtain ⟨e1, e2, e3, e4⟩ := chain_eq_tree m hc.1 hc.2 hroot ks hks hsorted cnt hcnt hcl tids cids first h1 h2 h3 h4
  have hcaps : CapsOK m := capsOK_of_caps hc.1 hc.2
  -- the tree walk, the first leaf, the chain (`e1 : cids = tids`), no id twice, ascending key-wise, every allocated leaf
  -- listed; every allocated leaf is reachable (being listed); every allocated branch is reachable
  exact ⟨tids, first, h1, h2, e1 ▸ h3, e2, e3, e4, fun i hi => leaves_reachable m tids h1 i (e4 i hi),
    branches_reachable m hcaps hroot cnt hcnt hcb tids h1 e2⟩

/-- a leaf chain that skips, truncates or misorders leaves, or leads to an unallocated slot (a cyclic chain makes the
    validators loop forever, which is not `Ok(())` either) -/
theorem rejects_chain_damage (m : RawMap K V) (hc : CapsIntact m) (tids : List Nat) (first : Option Nat)
    (ht : m.leafIds = .ok tids) (hf : m.firstLeaf = .ok first) (hbad : m.chainIds m.fuel first ≠ .ok tids) :
    m.checkDetailed Cfg.repaired ≠ .ok none := by
  intro h
  obtain ⟨ids, first', h1, h2, h3, _⟩ := detailed_sound m hc h
  rw [ht] at h1
  rw [hf] at h2
  cases h1; cases h2
  exact hbad h3

/-- an allocated node (leaf or branch) that is unreachable from the root -/
theorem rejects_unreachable_node (m : RawMap K V) (hc : CapsIntact m) (n : NodeRef)
    (halloc : match n with | .leaf i => m.leaves.maskAt i = true | .branch i => m.branches.maskAt i = true)
    (horphan : ∀ r, ¬ Reach m n r) :
    m.checkDetailed Cfg.repaired ≠ .ok none := by
  intro h
  -- the last two clauses of `detailed_sound`: allocated leaves, allocated branches are reachable
  obtain ⟨_, _, _, _, _, _, _, _, h7, h8⟩ := detailed_sound m hc h
  cases n with
  | leaf i => obtain ⟨r, hr⟩ := h7 i halloc; exact horphan r hr
  | branch i => obtain ⟨r, hr⟩ := h8 i halloc; exact horphan r hr

/-- an allocated leaf that the tree walk does not list -/
theorem rejects_orphan_leaf (m : RawMap K V) (hc : CapsIntact m) (tids : List Nat) (ht : m.leafIds = .ok tids)
    (i : Nat) (halloc : m.leaves.maskAt i = true) (horphan : i ∉ tids) :
    m.checkDetailed Cfg.repaired ≠ .ok none := by
  intro h
  obtain ⟨ids, _, h1, _, _, _, _, h6, _⟩ := detailed_sound m hc h
  rw [ht] at h1
  cases h1
  exact horphan (h6 i halloc)

/-- whatever `check_invariants()` rejects, `validate()`, `validate_for_operation()`, `try_insert`, `try_remove` reject too -/
theorem detailed_rejects_what_basic_rejects (m : RawMap K V) (h : m.checkInvariants Cfg.repaired ≠ .ok true) :
    m.checkDetailed Cfg.repaired ≠ .ok none :=
  fun hd => h (checkDetailed_ok_iff.1 hd).1

/-- the checked mutators on a map the detailed validation rejects: an error before anything is written -/
theorem checked_mutators_refuse (m : RawMap K V) (h : m.checkDetailed Cfg.repaired ≠ .ok none) :
    checkedEntry Cfg.repaired m = some .dataIntegrity :=
  checkedEntry_refuses Cfg.repaired m h

/-- … and the map as it was, for every `cfg` (`batch_insert`: the first item is refused, nothing to roll back) -/
theorem checked_mutators_leave_unchanged (cfg : Cfg) (s : RState K V) (h : (view s).checkDetailed cfg ≠ .ok none) (k : K) (v : V)
    (rest : List (K × V)) :
    tryInsert cfg s k v = some (s, .error .dataIntegrity) ∧ tryRemove cfg s k = some (s, .error .dataIntegrity) ∧
    batchInsert cfg s ((k, v) :: rest) = some (s, .error .dataIntegrity) ∧ validateForOperation cfg s = .error .dataIntegrity :=
  refuse_unchanged cfg s (validOk_of_rejects cfg s h) k v rest

-- D3 as found: an emptied non-root leaf passed both validators
/-- root branch `[10]` over leaves `L0 = []` (emptied through take_keys/take_values) and `L1 = [10, 11]`, capacity 4 -/
def emptiedLeaf : RawMap Int Nat :=
  { cap := 4, root := .branch 0,
    leaves := { storage := [{ cap := 4, keys := [], vals := [], next := 1 }, { cap := 4, keys := [10, 11], vals := [100, 110], next := nullId }],
                mask := [true, true], free := [] },
    branches := { storage := [{ cap := 4, keys := [10], children := [.leaf 0, .leaf 1] }], mask := [true], free := [] } }

/-- both validators of the code as found accept it; the repaired ones refuse it at the node stage -/
theorem Legacy.validator_accepts_empty_leaf :
    emptiedLeaf.checkInvariants { validatorChecksEmpty := false } = .ok true ∧
    emptiedLeaf.checkDetailed { validatorChecksEmpty := false } = .ok none ∧
    emptiedLeaf.checkInvariants Cfg.repaired = .ok false ∧
    emptiedLeaf.checkDetailed Cfg.repaired = .ok (some .nodeInvariants) := by decide +kernel

/-- root branch `[5, 9]` over leaves `A = [1, 2]`, `B = [5, 6]`, `C = [9, 10]`, capacity 4; the `next` fields are parameters -/
def threeLeaves (nA nB nC : Nat) (extra : List (RLeaf Int Nat)) : RawMap Int Nat :=
  { cap := 4, root := .branch 0,
    leaves := { storage := [{ cap := 4, keys := [1, 2], vals := [10, 20], next := nA }, { cap := 4, keys := [5, 6], vals := [50, 60], next := nB },
                            { cap := 4, keys := [9, 10], vals := [90, 100], next := nC }] ++ extra,
                mask := [true, true, true] ++ extra.map (fun _ => true), free := [] },
    branches := { storage := [{ cap := 4, keys := [5, 9], children := [.leaf 0, .leaf 1, .leaf 2] }], mask := [true], free := [] } }

theorem threeLeaves_caps (nA nB nC : Nat) : CapsIntact (threeLeaves nA nB nC []) := by
  refine ⟨fun id l h => ?_, by show 2 ≤ 4; omega⟩
  have hm : l ∈ (threeLeaves nA nB nC []).leaves.storage := List.mem_of_getElem? (Arena.get_eq_some h).2.2.2
  simp only [threeLeaves, List.append_nil, List.mem_cons, List.not_mem_nil, or_false] at hm
  rcases hm with rfl | rfl | rfl <;> rfl

/-- the healthy map passes (so `detailed_sound` is not vacuous) ... -/
example : CapsIntact (threeLeaves 1 2 nullId []) ∧ (threeLeaves 1 2 nullId []).checkDetailed Cfg.repaired = .ok none :=
  ⟨threeLeaves_caps _ _ _, by decide +kernel⟩
/-- ... and each kind of chain damage is refused at the stage shown -/
example : (threeLeaves 2 2 nullId []).checkDetailed Cfg.repaired = .ok (some .iterCount) ∧          -- skip B
          (threeLeaves 1 nullId nullId []).checkDetailed Cfg.repaired = .ok (some .iterCount) ∧     -- truncate after B
          (threeLeaves 2 nullId 1 []).checkDetailed Cfg.repaired = .ok (some .iterUnsorted) ∧       -- misorder: A, C, B
          (threeLeaves 1 7 nullId []).checkDetailed Cfg.repaired = .ok (some .iterCount) ∧          -- B leads to an unallocated slot
          (threeLeaves 1 2 nullId [{ cap := 4, keys := [20, 21], vals := [0, 0], next := nullId }]).checkDetailed Cfg.repaired
            = .ok (some .leafCount) := by decide +kernel                                                      -- orphan allocated leaf
example : (threeLeaves 2 nullId 1 []).leafIds = .ok [0, 1, 2] ∧ (threeLeaves 2 nullId 1 []).firstLeaf = .ok (some 0) ∧
          (threeLeaves 2 nullId 1 []).chainIds (threeLeaves 2 nullId 1 []).fuel (some 0) = .ok [0, 2, 1] := by decide +kernel

end BPT.Props.C14
