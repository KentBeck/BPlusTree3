import BPT.Rust.Ids
import BPT.Rust.Top
/-
  The full structural invariant of a Rust map state and its preservation by
  every mutator: order + occupancy (`Inv`), the leaf chain, and the id
  bookkeeping of both arenas.  `clear` is `sinv_fresh`, since `clear s = freshState s.cap` by definition.
-/
namespace BPT.Rust
open BPT Tree
variable {K V : Type} [Keyed K]

structure SInv (s : RState K V) : Prop where
  inv : Inv s
  chain : ChainL (links s.height s.root) nullId
  leafIds : IdsOK (leafIdsOf (links s.height s.root)) s.al.leaf
  branchIds : IdsOK (bids s.height s.root) s.al.branch

theorem SInv.leaves_idsOK {s : RState K V} (hs : SInv s) : IdsOK ((leaves s.height s.root).map (·.id)) s.al.leaf :=
  leafIdsOf_links s.height s.root ▸ hs.leafIds

/-- The listings come in as equations: for a grown or collapsed root the fields name `links s'.height s'.root` under a
    dependent height, and each would need its own `show … ; rw`. -/
theorem SInv.of_links {s : RState K V} {L : List (Nat × Nat)} {B : List Nat} (hL : links s.height s.root = L)
    (hB : bids s.height s.root = B) (inv : Inv s) (chain : ChainL L nullId) (leafIds : IdsOK (leafIdsOf L) s.al.leaf)
    (branchIds : IdsOK B s.al.branch) : SInv s := by
  subst hL; subst hB; exact ⟨inv, chain, leafIds, branchIds⟩

theorem sinv_fresh (cap : Nat) (hcap : 4 ≤ cap) : SInv (freshState cap : RState K V) := by
  refine ⟨(inv_fresh cap hcap).1, ?_, ?_, ?_⟩
  · show ChainL [(0, nullId)] nullId
    exact ⟨rfl, trivial⟩
  · exact IdsOK.fresh_leaf
  · exact IdsOK.fresh_branch

theorem insert_sinv (s : RState K V) (k : K) (v : V) (hs : SInv s) (s' : RState K V) (old : Option V)
    (he : insert s k v = some (s', old)) : SInv s' := by
  obtain ⟨s1, old1, he1, hinv, _⟩ := insert_spec s k v hs.inv
  rw [he] at he1; cases he1
  obtain ⟨res, al', hrec, hfin⟩ := insert_some he
  have hl := insertRec_links s.cap s.height s.root k v s.al res al' hrec
  have hb := insertRec_bids s.cap s.height s.root k v s.al res al' hrec
  rcases hfin with ⟨t, rfl, rfl⟩ | ⟨l, r, sep, rfl, rfl⟩
  · exact ⟨hinv, (LinkIns.chain hl nullId hs.chain).1, hs.leafIds.step (LinkIns.bal hl), hs.branchIds.step hb⟩
  · -- the new root: the links of its halves, one more branch id
    have hb' := (hs.branchIds.step hb).step (Bal.alloc _ _)
    exact SInv.of_links (links_grow s.height l r sep _) rfl hinv (LinkIns.chain hl nullId hs.chain).1
      (hs.leafIds.step (LinkIns.bal hl)) (by simpa [InsRes.bids, bids] using hb')

/-- root collapse keeps the links and gives the collapsed roots' ids back -/
theorem collapse_struct : ∀ (h : Nat) (t : Tree K V h) (al : Allocs) (lo hi : Option Int), Ordered h t lo hi →
    links (collapse h t al).1.1 (collapse h t al).1.2 = links h t ∧ (collapse h t al).2.leaf = al.leaf ∧
    Bal (bids h t) (bids (collapse h t al).1.1 (collapse h t al).1.2) al.branch (collapse h t al).2.branch := by
  intro h t al lo hi ho
  fun_induction collapse h t al with
  | case1 al l => exact ⟨rfl, rfl, Bal.refl⟩
  | case2 h al c b hch ih =>                          -- single child: it becomes the root, the old root's slot is released
    obtain ⟨hco, hflat⟩ := ordered_single ho hch
    obtain ⟨h1, h2, h3⟩ := ih hco
    refine ⟨?_, h2, Bal.trans (Bal.dealloc fun i => ?_) h3⟩
    · rw [h1, links_succ, hflat]
    · rw [bids_succ, hflat, List.count_cons]
      simp only [beq_iff_eq]
  | case3 h al lid b hch => exact absurd hch ho.children_ne_nil   -- no child: not an ordered branch
  | case4 h al c c2 rest b hch => exact ⟨rfl, rfl, Bal.refl⟩

theorem remove_sinv (s : RState K V) (k : K) (hs : SInv s) (s' : RState K V) (old : Option V)
    (he : remove s k = some (s', old)) : SInv s' := by
  obtain ⟨s1, old1, he1, hinv, _⟩ := remove_spec s k hs.inv
  rw [he] at he1; cases he1
  obtain ⟨r, al', hr, hp⟩ := removeRec_root s k hs.inv
  have hl := removeRec_links s.cap s.height s.root k s.al r al' hr
  have hb := removeRec_bids s.cap s.height s.root k s.al r al' hr
  cases hold : r.old with
  | none =>
    rw [remove_of_absent hr hold] at he; cases he
    exact ⟨hinv, (LinkRem.chain hl nullId hs.chain).1, hs.leafIds.step (LinkRem.bal hl), hs.branchIds.step hb⟩
  | some v =>
    rw [remove_of_present hr (by rw [hold]; rfl)] at he; cases he
    obtain ⟨c1, c2, c3⟩ := collapse_struct s.height r.t al' none none hp.ord
    exact SInv.of_links c1 rfl hinv (LinkRem.chain hl nullId hs.chain).1 (c2 ▸ hs.leafIds.step (LinkRem.bal hl))
      ((hs.branchIds.step hb).step c3)

theorem setRec_links_bids : ∀ (h : Nat) (t : Tree K V h) (k : K) (v : V), links h (setRec h t k v) = links h t ∧ bids h (setRec h t k v) = bids h t := by
  intro h
  induction h with
  | zero =>
    intro t k v
    refine ⟨?_, rfl⟩
    unfold setRec
    simp only []
    split
    · split <;> rfl
    · rfl
  | succ h ih =>
    intro t k v
    unfold setRec
    simp only []
    cases hci : (Branch.children t)[upperBound (Branch.keys t) k]? with
    | none => exact ⟨rfl, rfl⟩
    | some c =>
      exact ⟨links_replace1_eq hci (ih c k v).1, congrArg (Branch.id t :: ·) (Branch.flatMap_replace1_eq (bids h) hci (ih c k v).2)⟩

theorem getMutWrite_sinv (s : RState K V) (k : K) (v : V) (hs : SInv s) : SInv (getMutWrite s k v).1 := by
  have hinv := (getMutWrite_spec s k v hs.inv).1
  unfold getMutWrite at hinv ⊢
  cases hget : get s k with
  | none => exact hs
  | some p =>
    rw [hget] at hinv
    obtain ⟨e1, e2⟩ := setRec_links_bids s.height s.root k v
    exact SInv.of_links e1 e2 hinv hs.chain hs.leafIds hs.branchIds

end BPT.Rust
