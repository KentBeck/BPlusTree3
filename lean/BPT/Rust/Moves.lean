import BPT.Core.Pair
import BPT.Core.Occupancy
import BPT.Core.LinkIns
import BPT.Rust.NodeOps
/-
  The six moves of a rebalance (borrow from the left sibling, from the right one, merge; for a leaf child and for a
  branch child), for any occupancy policy `Occ cap m e`: each move, under its own condition, succeeds and takes
  `Short` to `Mended`.  The borrows are stated of the node functions of the Rust model, which Python's equal
  (Py/Rebalance); the merges of the node they build.  Which move is tried when is each implementation's business.
-/
namespace BPT
open Tree
open BPT.Rust (links links_succ links_zero SameLink)
open BPT.Py (PLinkRem)
variable {K V : Type} [Keyed K]

/-- the situation `rebalance_child` (Rust) and `_handle_underflow` (Python) are called in: child `i` of `b` has just
    lost a key and is one short of the minimum `m` -/
structure Short (cap m e h : Nat) (b : Branch K (Tree K V h)) (i : Nat) (lo hi : Option Int) : Prop where
  one_le : 1 ≤ m
  /-- a node at the minimum and the short one fit into one node, with the separator between them -/
  fit : 2 * m + e ≤ cap
  ord : Ordered (h+1) b lo hi
  /-- a key, hence two children: the short child has a sibling -/
  nk : 1 ≤ b.keys.length
  idx : i < b.children.length
  sz : ∀ j c, b.children[j]? = some c → Occ cap m e h c (if j = i then m - 1 else m)
  under : ∀ c, b.children[i]? = some c → nkeys h c = m - 1

/-- what they hand back.  `k1`: a merge drops a separator; `lk1`: only a merge of two leaves fuses two links -/
structure Mended (cap m e h : Nat) (b b2 : Branch K (Tree K V h)) (lo hi : Option Int) : Prop where
  ord : Ordered (h+1) b2 lo hi
  list : toList (h+1) b2 = toList (h+1) b
  sz : ∀ c ∈ b2.children, Occ cap m e h c m
  k1 : b.keys.length ≤ b2.keys.length + 1
  k2 : b2.keys.length ≤ b.keys.length
  id : b2.id = b.id
  lk : PLinkRem (links (h+1) b) (links (h+1) b2)
  lk1 : 0 < h → links (h+1) b2 = links (h+1) b

namespace Rust
omit [Keyed K]

theorem links_leaf_of_sameLink {x' x : Leaf K V} (h : SameLink x' x) : links 0 (x' : Tree K V 0) = links 0 (x : Tree K V 0) := by
  rw [links_zero, links_zero, h.1, h.2]

theorem links_two (h : Nat) (b : Branch K (Tree K V h)) (j : Nat) (x y : Tree K V h)
    (hx : b.children[j]? = some x) (hy : b.children[j+1]? = some y) :
    links (h+1) (b : Tree K V (h+1)) =
      (b.children.take j).flatMap (links h) ++ (links h x ++ links h y) ++ (b.children.drop (j+2)).flatMap (links h) := by
  rw [links_succ]; exact Branch.flatMap_pair (links h) b j x y hx hy

theorem links_merge2 (h : Nat) (b : Branch K (Tree K V h)) (j : Nat) (y z : Tree K V h) (hy : b.children[j+1]? = some y) :
    links (h+1) (b.merge2 j z : Tree K V (h+1)) =
      (b.children.take j).flatMap (links h) ++ links h z ++ (b.children.drop (j+2)).flatMap (links h) := by
  rw [links_succ]; exact Branch.flatMap_merge2 (links h) b j z (lt_of_getElem?_eq_some hy)

end Rust

-- the moves carry the names of the model functions they are about, which are written `Rust.leafBorrowLeft` etc. below
namespace Short
variable {cap m e h : Nat} {b : Branch K (Tree K V h)} {i : Nat} {lo hi : Option Int}

theorem of_replace1 {c' : Tree K V h} {n : Nat} (hm : 1 ≤ m) (hfit : 2 * m + e ≤ cap) (hb : Occ cap m e (h+1) (b : Tree K V (h+1)) n)
    (hn : 1 ≤ n) (hic : i < b.children.length) (ho : Ordered (h+1) (b.replace1 i c' : Tree K V (h+1)) lo hi)
    (hs : Occ cap m e h c' (m - 1)) (hlt : nkeys h c' < m) : Short cap m e h (b.replace1 i c') i lo hi := by
  refine ⟨hm, hfit, ho, Nat.le_trans hn hb.1, by show i < (setAt b.children i c').length; rw [length_setAt hic]; exact hic, ?_, ?_⟩
  · intro j x hx
    rw [Branch.replace1_children, getElem?_setAt hic] at hx
    by_cases hj : j = i
    · rw [if_pos hj] at hx ⊢; cases hx; exact hs
    · rw [if_neg hj] at hx ⊢; exact hb.children x (List.mem_of_getElem? hx)
  · intro x hx
    rw [Branch.replace1_children, getElem?_setAt hic, if_pos rfl] at hx
    cases hx; exact Nat.le_antisymm (Nat.le_sub_one_of_lt hlt) hs.nkeys.1

theorem two_children (hp : Short cap m e h b i lo hi) : 2 ≤ b.children.length := hp.ord.arity ▸ Nat.succ_le_succ hp.nk

theorem other (hp : Short cap m e h b i lo hi) {n : Nat} {z : Tree K V h} (hz : b.children[n]? = some z) (hne : n ≠ i) :
    Occ cap m e h z m := by
  have := hp.sz n z hz
  rwa [if_neg hne] at this

theorem rest (hp : Short cap m e h b i lo hi) {j : Nat} (hij : i = j ∨ i = j + 1) :
    ∀ n c, b.children[n]? = some c → n ≠ j → n ≠ j + 1 → Occ cap m e h c m :=
  fun _ _ hc h1 h2 => hp.other hc (hij.elim (· ▸ h1) (· ▸ h2))

theorem not_donor (hp : Short cap m e h b i lo hi) {n : Nat} {z : Tree K V h} (hz : b.children[n]? = some z) (hne : n ≠ i)
    (hnd : ¬ m < nkeys h z) : nkeys h z = m :=
  Nat.le_antisymm (Nat.le_of_not_lt hnd) (hp.other hz hne).nkeys.1

/-- a sibling that cannot donate holds exactly the minimum -/
theorem sibling_fit (hp : Short cap m e h b i lo hi) {n : Nat} {z c : Tree K V h} (hz : b.children[n]? = some z) (hne : n ≠ i)
    (hnd : ¬ m < nkeys h z) (hc : b.children[i]? = some c) :
    m ≤ nkeys h z + nkeys h c ∧ nkeys h z + nkeys h c + 1 + e ≤ cap :=
  merge_sizes e hp.one_le hp.fit (by rw [hp.not_donor hz hne hnd, hp.under c hc])

theorem pair_fit (hp : Short cap m e h b i lo hi) {j : Nat} {x y : Tree K V h} (hx : b.children[j]? = some x)
    (hy : b.children[j+1]? = some y) (hij : i = j + 1 ∧ ¬ m < nkeys h x ∨ i = j ∧ ¬ m < nkeys h y) :
    (i = j ∨ i = j + 1) ∧ m ≤ nkeys h x + nkeys h y ∧ nkeys h x + nkeys h y + 1 + e ≤ cap := by
  rcases hij with ⟨rfl, hnd⟩ | ⟨rfl, hnd⟩
  · exact ⟨Or.inr rfl, hp.sibling_fit hx (Nat.ne_of_lt (Nat.lt_succ_self j)) hnd hy⟩
  · exact ⟨Or.inl rfl, Nat.add_comm (nkeys h y) (nkeys h x) ▸ hp.sibling_fit hy (Nat.succ_ne_self i) hnd hx⟩

theorem recut (hp : Short cap m e h b i lo hi) {j : Nat} {x y : Tree K V h} (hx : b.children[j]? = some x)
    (hy : b.children[j+1]? = some y) (hij : i = j ∨ i = j + 1) (x' y' : Tree K V h) (sep : K)
    (hc : Cut h (loAt b.keys lo j) (hiAt b.keys hi (j+1)) x' sep y')
    (hlist : toList h x' ++ toList h y' = toList h x ++ toList h y)
    (hlinks : links h x' ++ links h y' = links h x ++ links h y)
    (hsx : Occ cap m e h x' m) (hsy : Occ cap m e h y' m) : Mended cap m e h b (b.replace2 j x' y' sep) lo hi := by
  have hj1 : j + 1 < b.children.length := lt_of_getElem?_eq_some hy
  have hjk : j < b.keys.length := Nat.lt_of_succ_lt_succ (show j + 1 < b.keys.length + 1 from hp.ord.arity ▸ hj1)
  have hlen : (b.replace2 j x' y' sep).keys.length = b.keys.length := length_setAt hjk
  have hlk : links (h+1) (b.replace2 j x' y' sep) = links (h+1) b := by
    rw [links_succ, links_succ]; exact Branch.flatMap_replace2_eq (links h) hx hy hlinks
  -- the new left node holds a key, which puts the new separator strictly above the lower bound
  refine ⟨ordered_replace2 h b lo hi j x' y' sep hp.ord hj1 hc (hc.lo_lt (Nat.le_trans hp.one_le hsx.nkeys.1)), ?_, ?_,
    hlen ▸ Nat.le_succ _, Nat.le_of_eq hlen, rfl, .same hlk, fun _ => hlk⟩
  · rw [toList_succ, toList_succ]; exact Branch.flatMap_replace2_eq (toList h) hx hy hlist
  · rw [Branch.children_replace2 b j x' y' sep hj1]
    exact forall_mem_pair _ b.children [x', y'] j (forall_mem_two hsx hsy) (hp.rest hij)

theorem merge (hp : Short cap m e h b i lo hi) {j : Nat} {x y : Tree K V h} (hx : b.children[j]? = some x)
    (hy : b.children[j+1]? = some y) (hij : i = j ∨ i = j + 1) (z : Tree K V h)
    (hz : Ordered h z (loAt b.keys lo j) (hiAt b.keys hi (j+1))) (hlist : toList h z = toList h x ++ toList h y)
    (hlinks : PLinkRem (links h x ++ links h y) (links h z)) (hlinks1 : 0 < h → links h z = links h x ++ links h y)
    (hsz : Occ cap m e h z m) : Mended cap m e h b (b.merge2 j z) lo hi := by
  have hj1 : j + 1 < b.children.length := lt_of_getElem?_eq_some hy
  have hjk : j < b.keys.length := Nat.lt_of_succ_lt_succ (show j + 1 < b.keys.length + 1 from hp.ord.arity ▸ hj1)
  have hlen : (b.merge2 j z).keys.length + 1 = b.keys.length := by
    show (removeAt b.keys j).length + 1 = b.keys.length
    rw [length_removeAt hjk]; exact Nat.sub_add_cancel (Nat.zero_lt_of_lt hjk)
  have g5 := Rust.links_two h b j x y hx hy
  have g6 := Rust.links_merge2 h b j y z hy
  refine ⟨ordered_merge2 h b lo hi j z hp.ord hj1 hz, ?_, ?_, Nat.le_of_eq hlen.symm, hlen ▸ Nat.le_succ _, rfl, ?_, ?_⟩
  · rw [toList_succ, toList_succ, Branch.flatMap_merge2 _ b j z hj1, Branch.flatMap_pair _ b j x y hx hy, hlist]
  · rw [Branch.children_merge2 b j z hj1]
    exact forall_mem_pair _ b.children [z] j (fun c hc => List.mem_singleton.1 hc ▸ hsz) (hp.rest hij)
  · rw [g5]; exact (hlinks.ctx _ _).trans_same g6
  · intro h0; rw [g5, ← hlinks1 h0]; exact g6

/-- `j < b.keys.length`: what `leafBorrowLeftAt` tests before it writes the new separator; likewise below -/
theorem leafBorrowLeft {b : Branch K (Leaf K V)} {j : Nat} (hp : Short cap m e 0 (b : Branch K (Tree K V 0)) (j+1) lo hi)
    {a c : Leaf K V} (ha : b.children[j]? = some a) (hc : b.children[j+1]? = some c) (hdon : m < a.keys.length) :
    ∃ a' c' k, Rust.leafBorrowLeft a c = some (a', c', k) ∧ j < b.keys.length ∧
      Mended cap m e 0 (b : Branch K (Tree K V 0)) (b.replace2 j a' c' k) lo hi := by
  obtain ⟨sep, hsep, hac⟩ := pair_children 0 b lo hi j a c hp.ord ha hc
  obtain ⟨sd, ss⟩ := borrow_sizes 0 hdon (hp.other ha (Nat.ne_of_lt (Nat.lt_succ_self j))).nkeys.2 (hp.under c hc)
  obtain ⟨a', c', k, he, hcut, hlist, hla, hlc⟩ := Rust.leafBorrowLeft_cut a c sep hac (Nat.zero_lt_of_lt hdon)
  obtain ⟨i1, i2⟩ := Rust.leafBorrowLeft_some he
  exact ⟨a', c', k, he, lt_of_getElem?_eq_some hsep,
    hp.recut ha hc (Or.inr rfl) a' c' k hcut hlist (by rw [Rust.links_leaf_of_sameLink i1, Rust.links_leaf_of_sameLink i2]) (occ_leaf.2 (hla ▸ sd)) (occ_leaf.2 (hlc ▸ ss))⟩

theorem leafBorrowRight {b : Branch K (Leaf K V)} (hp : Short cap m e 0 (b : Branch K (Tree K V 0)) i lo hi)
    {c r : Leaf K V} (hc : b.children[i]? = some c) (hr : b.children[i+1]? = some r) (hdon : m < r.keys.length) :
    ∃ c' r' k, Rust.leafBorrowRight c r = some (c', r', some k) ∧ i < b.keys.length ∧
      Mended cap m e 0 (b : Branch K (Tree K V 0)) (b.replace2 i c' r' k) lo hi := by
  obtain ⟨sep, hsep, hcr⟩ := pair_children 0 b lo hi i c r hp.ord hc hr
  obtain ⟨sd, ss⟩ := borrow_sizes 0 hdon (hp.other hr (Nat.succ_ne_self i)).nkeys.2 (hp.under c hc)
  obtain ⟨c', r', k, he, hcut, hlist, hlc, hlr⟩ := Rust.leafBorrowRight_cut c r sep hcr (Nat.lt_of_le_of_lt hp.one_le hdon)
  obtain ⟨i1, i2⟩ := Rust.leafBorrowRight_some he
  exact ⟨c', r', k, he, lt_of_getElem?_eq_some hsep,
    hp.recut hc hr (Or.inl rfl) c' r' k hcut hlist (by rw [Rust.links_leaf_of_sameLink i1, Rust.links_leaf_of_sameLink i2]) (occ_leaf.2 (hlc ▸ ss)) (occ_leaf.2 (hlr ▸ sd))⟩

/-- The merges are stated of the node the model functions build, not of the functions: Rust's assert that the two fit
    and answer an `Option`, Python's are total and `_merge_with_sibling` tests the fit first; all unfold to this record.
    A leaf merge asks for the fit because Python's empty-leaf shortcut merges with whatever sibling there is; a branch
    merge hands back what the codes test. -/
theorem leafMerge {b : Branch K (Leaf K V)} (hp : Short cap m e 0 (b : Branch K (Tree K V 0)) i lo hi) {j : Nat}
    {x y : Leaf K V} (hx : b.children[j]? = some x) (hy : b.children[j+1]? = some y) (hij : i = j ∨ i = j + 1)
    (hfit : x.keys.length + y.keys.length ≤ cap) :
    j < b.keys.length ∧ Mended cap m e 0 (b : Branch K (Tree K V 0))
      (b.merge2 j { x with keys := x.keys ++ y.keys, vals := x.vals ++ y.vals, next := y.next }) lo hi := by
  obtain ⟨sep, hsep, hxy⟩ := pair_children 0 b lo hi j x y hp.ord hx hy
  obtain ⟨m1, m2⟩ := leaf_merge x y sep y.next hxy
  -- one of the two meets the minimum by itself
  have hsum : m ≤ x.keys.length + y.keys.length := hij.elim
    (fun e => Nat.le_trans (hp.other hy (e ▸ Nat.succ_ne_self i)).nkeys.1 (Nat.le_add_left _ _))
    (fun e => Nat.le_trans (hp.other hx (e ▸ Nat.ne_of_lt (Nat.lt_succ_self j))).nkeys.1 (Nat.le_add_right _ _))
  refine ⟨lt_of_getElem?_eq_some hsep, hp.merge hx hy hij _ m1 m2 (.merge [] [] x.id x.next y.id y.next rfl rfl)
    (fun h0 => absurd h0 (Nat.lt_irrefl 0)) (occ_leaf.2 ?_)⟩
  show m ≤ (x.keys ++ y.keys).length ∧ (x.keys ++ y.keys).length ≤ cap
  rw [List.length_append]; exact ⟨hsum, hfit⟩

theorem grandchildren {b : Branch K (Branch K (Tree K V h))} (hp : Short cap m e (h+1) (b : Branch K (Tree K V (h+1))) i lo hi)
    {j : Nat} {x : Branch K (Tree K V h)} (hx : b.children[j]? = some x) : ∀ c ∈ x.children, Occ cap m e h c m := by
  have := hp.sz j x hx
  split at this <;> exact this.children

theorem grandchildren_nkeys {b : Branch K (Branch K (Tree K V h))} (hp : Short cap m e (h+1) (b : Branch K (Tree K V (h+1))) i lo hi)
    {j : Nat} {x : Branch K (Tree K V h)} (hx : b.children[j]? = some x) : ∀ c ∈ x.children, 1 ≤ nkeys h c :=
  fun c hc => Nat.le_trans hp.one_le (hp.grandchildren hx c hc).nkeys.1

theorem branchBorrowLeft {b : Branch K (Branch K (Tree K V h))} {j : Nat}
    (hp : Short cap m e (h+1) (b : Branch K (Tree K V (h+1))) (j+1) lo hi) {a c : Branch K (Tree K V h)}
    (ha : b.children[j]? = some a) (hc : b.children[j+1]? = some c) (hdon : m < a.keys.length) :
    ∃ sep a' c' mk, b.keys[j]? = some sep ∧ Rust.branchBorrowLeft a c sep = some (a', c', mk) ∧
      Mended cap m e (h+1) (b : Branch K (Tree K V (h+1))) (b.replace2 j a' c' mk) lo hi := by
  obtain ⟨sep, hsep, hac⟩ := pair_children (h+1) b lo hi j a c hp.ord ha hc
  obtain ⟨sd, ss⟩ := borrow_sizes e hdon (occ_branch.1 (hp.other ha (Nat.ne_of_lt (Nat.lt_succ_self j)))).2.1 (hp.under c hc)
  obtain ⟨a', c', mk, he, hcut, hlist, hcc, hla, hlc⟩ :=
    Rust.branchBorrowLeft_cut h a c sep hac (hp.grandchildren_nkeys hc) (Nat.zero_lt_of_lt hdon)
  obtain ⟨hga, hgc⟩ := forall_mem_of_append_eq hcc (hp.grandchildren ha) (hp.grandchildren hc)
  exact ⟨sep, a', c', mk, hsep, he, hp.recut ha hc (Or.inr rfl) a' c' mk hcut hlist
    (by simp only [links_succ, ← List.flatMap_append, hcc]) (occ_branch.2 ⟨hla ▸ sd.1, hla ▸ sd.2, hga⟩) (occ_branch.2 ⟨hlc ▸ ss.1, hlc ▸ ss.2, hgc⟩)⟩

theorem branchBorrowRight {b : Branch K (Branch K (Tree K V h))}
    (hp : Short cap m e (h+1) (b : Branch K (Tree K V (h+1))) i lo hi) {c r : Branch K (Tree K V h)}
    (hc : b.children[i]? = some c) (hr : b.children[i+1]? = some r) (hdon : m < r.keys.length) :
    ∃ sep c' r' mk, b.keys[i]? = some sep ∧ Rust.branchBorrowRight c r sep = some (c', r', mk) ∧
      Mended cap m e (h+1) (b : Branch K (Tree K V (h+1))) (b.replace2 i c' r' mk) lo hi := by
  obtain ⟨sep, hsep, hcr⟩ := pair_children (h+1) b lo hi i c r hp.ord hc hr
  obtain ⟨sd, ss⟩ := borrow_sizes e hdon (occ_branch.1 (hp.other hr (Nat.succ_ne_self i))).2.1 (hp.under c hc)
  obtain ⟨c', r', mk, he, hcut, hlist, hcc, hlc, hlr⟩ :=
    Rust.branchBorrowRight_cut h c r sep hcr (hp.grandchildren_nkeys hr) (Nat.zero_lt_of_lt hdon)
  obtain ⟨hgc, hgr⟩ := forall_mem_of_append_eq hcc (hp.grandchildren hc) (hp.grandchildren hr)
  exact ⟨sep, c', r', mk, hsep, he, hp.recut hc hr (Or.inl rfl) c' r' mk hcut hlist
    (by simp only [links_succ, ← List.flatMap_append, hcc]) (occ_branch.2 ⟨hlc ▸ ss.1, hlc ▸ ss.2, hgc⟩) (occ_branch.2 ⟨hlr ▸ sd.1, hlr ▸ sd.2, hgr⟩)⟩

theorem branchMerge {b : Branch K (Branch K (Tree K V h))} (hp : Short cap m e (h+1) (b : Branch K (Tree K V (h+1))) i lo hi)
    {j : Nat} {x y : Branch K (Tree K V h)} (hx : b.children[j]? = some x) (hy : b.children[j+1]? = some y)
    (hij : i = j + 1 ∧ ¬ m < x.keys.length ∨ i = j ∧ ¬ m < y.keys.length) :
    ∃ sep, b.keys[j]? = some sep ∧
      (x.keys.length + y.keys.length + 1 ≤ cap ∧ x.children.length + y.children.length ≤ cap + 1) ∧
      Mended cap m e (h+1) (b : Branch K (Tree K V (h+1)))
        (b.merge2 j { x with keys := x.keys ++ sep :: y.keys, children := x.children ++ y.children }) lo hi := by
  obtain ⟨hij, hs1, hs2⟩ := hp.pair_fit hx hy hij
  obtain ⟨sep, hsep, hxy⟩ := pair_children (h+1) b lo hi j x y hp.ord hx hy
  have hfit' : x.keys.length + y.keys.length + 1 ≤ cap := Nat.le_trans (Nat.le_add_right _ _) hs2
  obtain ⟨hmo, hml⟩ := branch_merge h x y sep hxy (hp.grandchildren_nkeys hy)
  refine ⟨sep, hsep, ⟨hfit', by rw [hxy.left.arity, hxy.right.arity, Nat.add_right_comm]; exact Nat.succ_le_succ hfit'⟩,
    hp.merge hx hy hij _ hmo hml (.same ?lk) (fun _ => ?lk) (occ_branch.2 ⟨?_, ?_, ?_⟩)⟩
  · simp only [links_succ, List.flatMap_append]
  · show m ≤ (x.keys ++ sep :: y.keys).length
    rw [List.length_append, List.length_cons]; exact Nat.le_trans hs1 (Nat.add_le_add_left (Nat.le_succ _) _)
  · show (x.keys ++ sep :: y.keys).length + e ≤ cap
    rw [List.length_append, List.length_cons, ← Nat.add_assoc]; exact hs2
  · intro c hc
    exact (List.mem_append.1 (show c ∈ x.children ++ y.children from hc)).elim (hp.grandchildren hx c) (hp.grandchildren hy c)

end Short

/-- it may have lost the one key a merge drops -/
theorem Mended.occ {cap m e h n : Nat} {b b2 : Branch K (Tree K V h)} {lo hi : Option Int} (hm : Mended cap m e h b b2 lo hi)
    (h1 : n ≤ b.keys.length) (h2 : b.keys.length + e ≤ cap) : Occ cap m e (h+1) (b2 : Tree K V (h+1)) (n - 1) :=
  ⟨Nat.sub_le_of_le_add (Nat.le_trans h1 hm.k1), Nat.le_trans (Nat.add_le_add_right hm.k2 e) h2, hm.sz⟩

end BPT
