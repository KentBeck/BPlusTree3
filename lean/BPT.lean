import BPT.Props.C01
import BPT.Props.C02
import BPT.Props.C03
import BPT.Props.C04
import BPT.Props.C05
import BPT.Props.C06
import BPT.Props.C07
import BPT.Props.C08
import BPT.Props.C09
import BPT.Props.C10
import BPT.Props.C11
import BPT.Props.C12
import BPT.Props.C13
import BPT.Props.C14
import BPT.Props.C15
import BPT.Props.C16
